-- This module serves as the root of the `Bxh` library.
-- Import modules here that should be built as part of the library.
import Bxh.Basic
import Bxh.AllProps
