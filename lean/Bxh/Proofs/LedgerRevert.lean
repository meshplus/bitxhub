import Bxh.Proofs.LedgerViews
/-!
# `RevertToSnapshot` restores every read of storage, balance and nonce

Two ledgers are related by `RevRel` (same cache, same database, same views, and the second one's objects are objects of the first), and
a step is `Undoable` when undoing the changes it appended leads from anything related to the ledger after it to something related to
the ledger before it.  Reads and journaled writes of storage, balance and nonce are undoable, undoable steps compose, and `revertTo` undoes what was appended since
the snapshot (`revertTo_undoable`).
-/
namespace Bxh.Ledger
open Bxh

structure RevRel (u s : L) : Prop where
  cache : u.cache = s.cache
  db : u.db = s.db
  peek : ∀ a k, peekState u a k = peekState s a k
  inner : ∀ a, peekInner u a = peekInner s a
  keys : ∀ a, (KV.get s.accounts a).isSome = true → (KV.get u.accounts a).isSome = true

theorem RevRel.refl (s : L) : RevRel s s := ⟨rfl, rfl, fun _ _ => rfl, fun _ => rfl, fun _ h => h⟩

theorem RevRel.trans {x y z : L} (h1 : RevRel x y) (h2 : RevRel y z) : RevRel x z :=
  ⟨h1.cache.trans h2.cache, h1.db.trans h2.db, fun a k => (h1.peek a k).trans (h2.peek a k), fun a => (h1.inner a).trans (h2.inner a),
    fun a h => h1.keys a (h2.keys a h)⟩

def Undoable (K : String → String) (s r : L) : Prop :=
  ∃ cs, r.changes = s.changes ++ cs ∧ ∀ u, RevRel u r → RevRel (cs.reverse.foldl (undo K) u) s

variable {K : String → String}

theorem Undoable.of_revRel {s r : L} (h : RevRel r s) (hc : r.changes = s.changes) : Undoable K s r :=
  ⟨[], by rw [hc, List.append_nil], fun _ hu => hu.trans h⟩

theorem Undoable.refl (s : L) : Undoable K s s := Undoable.of_revRel (RevRel.refl s) rfl

theorem Undoable.trans {s m r : L} (h1 : Undoable K s m) (h2 : Undoable K m r) : Undoable K s r := by
  obtain ⟨cs1, e1, g1⟩ := h1
  obtain ⟨cs2, e2, g2⟩ := h2
  refine ⟨cs1 ++ cs2, by rw [e2, e1, List.append_assoc], fun u hR => ?_⟩
  rw [List.reverse_append, List.foldl_append]
  exact g1 _ (g2 u hR)

/-- undoing a creation mark drops the account from `u`, with its entry in the inner-account cache — of which there is none, as `s`
cannot load the account -/
theorem RevRel.undo_create (K : String → String) {u s : L} {a : Addr} (h : RevRel u s) (hv : viewAcct s a = none) :
    RevRel (undo K u (.createObject a)) s := by
  obtain ⟨hacc, hload⟩ : KV.get s.accounts a = none ∧ loadAcct s a = none := by
    unfold viewAcct at hv
    split at hv
    · cases hv
    · exact ⟨by assumption, hv⟩
  have hinner : KV.get u.cache.inner a = none := by
    rw [h.cache]
    unfold loadAcct at hload
    split at hload
    · cases hload
    · assumption
  have hcache : (undo K u (.createObject a)).cache = u.cache := by
    show ({ u.cache with inner := KV.erase u.cache.inner a } : Cache) = u.cache
    rw [KV.erase_of_get_none _ _ hinner]
  have hget : ∀ b, KV.get (undo K u (.createObject a)).accounts b = if a = b then none else KV.get u.accounts b :=
    fun b => KV.get_erase u.accounts a b
  have hself : viewAcct (undo K u (.createObject a)) a = none := by
    unfold viewAcct; rw [hget, if_pos rfl, loadAcct_congr (hcache.trans h.cache) h.db]; exact hload
  refine ⟨hcache.trans h.cache, h.db, fun b k => ?_, fun b => ?_, fun b hb => ?_⟩
  · by_cases e : a = b
    · rw [← e]
      unfold peekState
      rw [hself, hv]
      exact below_congr (hcache.trans h.cache) h.db a k
    · rw [← h.peek b k]
      exact peekState_congr hcache rfl b (by rw [hget, if_neg e]) k
  · by_cases e : a = b
    · rw [← e]; unfold peekInner; rw [hself, hv]
    · rw [← h.inner b]
      exact peekInner_congr hcache rfl b (by rw [hget, if_neg e])
  · have e : a ≠ b := by intro e; rw [← e, hacc] at hb; cases hb
    rw [hget, if_neg e]; exact h.keys b hb

/-- an account is made an object of the block (by `GetOrCreateAccount`, by `GetState`): all there is to undo is the creation mark, if one
was journaled -/
theorem undo_touch {s r : L} {a : Addr} {o : Acct} (hP : PutObj s a o (created s a) r)
    (ho : ∀ k, rdAcct s a k o = peekState s a k) (hi : ivOf o = peekInner s a) : Undoable K s r := by
  have hR : RevRel r s := by
    refine ⟨hP.cache, hP.db, fun b k => ?_, fun b => ?_, fun b hb => ?_⟩
    · rw [hP.peekState_after]; split
      · rename_i e; rw [← e, ho]
      · rfl
    · rw [hP.peekInner_after]; split
      · rename_i e; rw [← e, hi]
      · rfl
    · rw [hP.get]; split
      · rfl
      · exact hb
  unfold created at hP
  cases hv : viewAcct s a with
  | some acc =>
    rw [hv] at hP
    exact Undoable.of_revRel hR (by rw [hP.changes]; exact List.append_nil _)
  | none =>
    rw [hv] at hP
    exact ⟨[.createObject a], hP.changes, fun u hu => (hu.trans hR).undo_create K hv⟩

/-- the object `o` of an account is changed to `o'` and the change journaled; the undo finds not `o'` but some `au` that reads like it
(`RevRel`), whence the shape of `hg` -/
theorem undo_modify {s r : L} {a : Addr} {o o' : Acct} {c : Change} (g : Acct → Acct)
    (ho : KV.get s.accounts a = some o) (hP : PutObj s a o' [c] r)
    (hundo : ∀ u au, KV.get u.accounts a = some au → undo K u c = putAcct u a (g au))
    (hg : ∀ au, (∀ k, rdAcct s a k au = rdAcct s a k o') → ivOf au = ivOf o' →
      (∀ k, rdAcct s a k (g au) = rdAcct s a k o) ∧ ivOf (g au) = ivOf o) : Undoable K s r := by
  refine ⟨[c], hP.changes, fun u hu => ?_⟩
  show RevRel (undo K u c) s
  obtain ⟨au, hau⟩ := Option.isSome_iff_exists.mp (hu.keys a (by rw [hP.self]; rfl))
  rw [hundo u au hau]
  have hU := PutObj.ofPutAcct u a (g au)
  have hc : u.cache = s.cache := hu.cache.trans hP.cache
  have hd : u.db = s.db := hu.db.trans hP.db
  have h1 : ∀ k, rdAcct s a k au = rdAcct s a k o' := fun k => by
    have := hu.peek a k
    rwa [peekState_of_present hau, hP.peekState_after, if_pos rfl, rdAcct_congr hc hd] at this
  have h2 : ivOf au = ivOf o' := by
    have := hu.inner a
    rwa [peekInner_of_present hau, hP.peekInner_after, if_pos rfl] at this
  obtain ⟨g1, g2⟩ := hg au h1 h2
  refine ⟨hc, hd, fun b k => ?_, fun b => ?_, fun b hb => ?_⟩
  · rw [hU.peekState_after]
    by_cases e : a = b
    · rw [if_pos e, ← e, rdAcct_congr hc hd, g1, peekState_of_present ho]
    · rw [if_neg e, hu.peek, hP.peekState_after, if_neg e]
  · rw [hU.peekInner_after]
    by_cases e : a = b
    · rw [if_pos e, ← e, g2, peekInner_of_present ho]
    · rw [if_neg e, hu.inner, hP.peekInner_after, if_neg e]
  · rw [hU.get]
    by_cases e : a = b
    · rw [if_pos e]; rfl
    · rw [if_neg e]; exact hu.keys b (by rw [hP.other e]; exact hb)

theorem undo_getOrCreate (s : L) (a : Addr) : Undoable K s (getOrCreate s a).1 :=
  undo_touch (getOrCreate_put s a).1 (fun k => (peekState_eq s a k).symm) (peekInner_eq s a).symm

theorem undo_getState (s : L) (a : Addr) (k : String) : Undoable K s (getState s a k).1 :=
  undo_touch (getState_put s a k).1 (fun k' => by rw [rdAcct_memo, peekState_eq]) (by rw [ivOf_memo, peekInner_eq])

theorem undo_setState (s : L) (a : Addr) (k : String) (v : Bytes) : Undoable K s (setState s a k v) := by
  obtain ⟨hP, _⟩ := getState_put s a k
  refine (undo_getState s a k).trans ?_
  rw [setState_eq]
  refine undo_modify (fun au => { au with dirtyState := KV.set au.dirtyState k (peekState s a k) }) hP.self (PutObj.ofPutJournal _ a _ _)
    (fun u au h => by unfold undo; simp only [h, Option.getD_some]) (fun au h1 h2 => ⟨fun k' => ?_, h2⟩)
  rw [rdAcct_setDirty, h1 k', rdAcct_setDirty]
  by_cases hk : k = k'
  · rw [if_pos hk, ← hk, rdAcct_congr hP.cache hP.db, rdAcct_memo, peekState_eq]
  · rw [if_neg hk, if_neg hk]

theorem undo_inner (s : L) (a : Addr) (f g : Inner → Inner) (c : Change)
    (hundo : ∀ u au, KV.get u.accounts a = some au → undo K u c = putAcct u a { au with dirtyAcc := some (g (ivOf au)) })
    (hfg : g (f (peekInner s a)) = peekInner s a) :
    Undoable K s (innerWrite s a f c) := by
  obtain ⟨hP, _⟩ := getOrCreate_put s a
  refine (undo_getOrCreate s a).trans (undo_modify (fun au => { au with dirtyAcc := some (g (ivOf au)) }) hP.self
    (PutObj.ofPutJournal _ a _ _) hundo (fun au h1 h2 => ⟨h1, ?_⟩))
  rw [h2]
  show g (f (ivOf (objOf s a))) = _
  rw [← peekInner_eq, hfg]

theorem undo_setBalance (s : L) (a : Addr) (v : Int) : Undoable K s (setBalance s a v) := by
  rw [setBalance_eq]
  exact undo_inner s a (fun d => { d with balance := v }) (fun d => { d with balance := (peekInner s a).balance }) _
    (fun u au h => by unfold undo; simp only [h, Option.getD_some]; rfl) rfl

theorem undo_setNonce (s : L) (a : Addr) (v : Nat) : Undoable K s (setNonce s a v) := by
  rw [setNonce_eq]
  exact undo_inner s a (fun d => { d with nonce := v }) (fun d => { d with nonce := (peekInner s a).nonce }) _
    (fun u au h => by unfold undo; simp only [h, Option.getD_some]; rfl) rfl

theorem undo_applyWrite (s : L) (w : Write) : Undoable K s (applyWrite s w) := by
  cases w with
  | storage a k v => exact undo_setState s a k v
  | balance a v => exact undo_setBalance s a v
  | nonce a v => exact undo_setNonce s a v

theorem undo_applyWrites (ws : List Write) (s : L) : Undoable K s (applyWrites ws s) :=
  foldl_inv (P := Undoable K s) (fun m w h => h.trans (undo_applyWrite m w)) ws (Undoable.refl s)

theorem undo_writes (K : String → String) (ws : List SWrite) (s : L) :
    ∃ cs, (writes ws s).changes = s.changes ++ cs ∧ ∀ u, RevRel u (writes ws s) → RevRel (cs.reverse.foldl (undo K) u) s := by
  rw [writes_eq]; exact undo_applyWrites _ s

/-- `RevertToSnapshot` to a snapshot taken at `s`; `hrev` is the changer's invariant (revision ids are handed out from `nextRev`) -/
theorem revertTo_undoable {s r : L} (hrev : ∀ p ∈ s.revisions, p.1 < s.nextRev)
    (h1 : r.revisions = (snapshot s).1.revisions) (hU : Undoable K (snapshot s).1 r) :
    ∃ l3, revertTo K r (snapshot s).2 = some l3 ∧ RevRel l3 s ∧ l3.changes = s.changes ∧ l3.revisions = s.revisions := by
  obtain ⟨cs, (h2 : r.changes = s.changes ++ cs), g⟩ := hU
  replace h1 : r.revisions = s.revisions ++ [(s.nextRev, s.changes.length)] := h1
  show ∃ l3, revertTo K r s.nextRev = some l3 ∧ _
  have hfind : r.revisions.find? (fun p => decide (p.1 ≥ s.nextRev)) = some (s.nextRev, s.changes.length) := by
    rw [h1, List.find?_append, List.find?_eq_none.mpr (fun p hp => by have := hrev p hp; simp; omega)]
    simp
  have hfilter : r.revisions.filter (fun p => decide (p.1 < s.nextRev)) = s.revisions := by
    rw [h1, List.filter_append, List.filter_eq_self.mpr (fun p hp => by simpa using hrev p hp)]
    simp
  have hundo : ∀ x : L, (cs.reverse.foldl (undo K) x).changes = x.changes ∧ (cs.reverse.foldl (undo K) x).revisions = x.revisions :=
    fun x => foldl_inv (P := fun y : L => y.changes = x.changes ∧ y.revisions = x.revisions)
      (fun y c h => by cases c <;> exact h) cs.reverse ⟨rfl, rfl⟩
  obtain ⟨u1, u2⟩ := hundo { r with changes := s.changes }
  have hR := g { r with changes := s.changes } ⟨rfl, rfl, fun _ _ => rfl, fun _ => rfl, fun _ h => h⟩
  unfold revertTo
  simp only [hfind, ne_eq, not_true_eq_false, if_false, h2, List.drop_left, List.take_left]
  exact ⟨_, rfl, ⟨hR.cache, hR.db, hR.peek, hR.inner, hR.keys⟩, u1, by rw [u2]; exact hfilter⟩

theorem reads_of_revRel {x y : L} (hR : RevRel x y) : (∀ a k, (getState x a k).2 = (getState y a k).2) ∧
    ∀ a, (getBalance x a).2 = (getBalance y a).2 ∧ (getNonce x a).2 = (getNonce y a).2 :=
  ⟨fun a k => by rw [getState_peek, getState_peek]; exact hR.peek a k,
   fun a => by rw [getBalance_peek, getBalance_peek, getNonce_peek, getNonce_peek, hR.inner a]; exact ⟨rfl, rfl⟩⟩

end Bxh.Ledger
