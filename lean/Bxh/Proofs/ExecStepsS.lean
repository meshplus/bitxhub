import Bxh.Model.Exec
/-!
# The contract functions reached while an IBTP or a BVM call is handled never touch a balance

`StepsS` is `Steps` without the balance constructor: reachability by storage writes and event posts only.  That the contract
functions are of this kind follows from their write footprints (`Writes.stepsS`, `ExecSteps.lean`).
-/
namespace Bxh.Exec

inductive StepsS : Led → Led → Prop
  | refl (l : Led) : StepsS l l
  | setS {l l' : Led} (k : Key) (v : Option Val) : StepsS l l' → StepsS l (l'.setS k v)
  | post {l l' : Led} (e : Ev) : StepsS l l' → StepsS l (l'.post e)

theorem StepsS.setIC {l l' : Led} (s : SvcId) (i : IC) (h : StepsS l l') : StepsS l (setIC l' s i) := StepsS.setS _ _ h

theorem StepsS.bal {l l' : Led} (h : StepsS l l') : l'.bal = l.bal := by
  induction h with
  | refl => rfl
  | setS k v _ ih => exact ih
  | post e _ ih => exact ih

end Bxh.Exec
