import Bxh.Proofs.ChainOps
/-!
# The stored chain stays hash-linked and indexed over every history of persists and rollbacks

`LinkedTo n H`: the blockfile tables hold exactly `H` blocks, block `h` has height `h` and is found under its height and its hash
in the index; every block's parent is the hash of the block below it (the first one's is the zero hash) and no two stored blocks
share a hash.  `Linked n` adds the head: the cached chain meta names `H` and the hash of block `H`.

Kept by `persist` — provided the new block's hash is not the hash of a stored block (`FreshHash`: block hashes are SHA-256 of the
header in the code and symbolic names in the model; the hypothesis is "no collision among the hashes of the stored chain") — and by
`RollbackBlockChain` to any lower height, hence by every history (`reach_inv`), together with `CountOk`: the cumulative interchain
count of the chain meta is the sum of the counts of the stored blocks.
-/
namespace Bxh.Chain

structure LinkedTo (n : Node) (H : Nat) : Prop where
  blocks : n.blocks = H
  lenB : n.tbl.bodies.length = H
  lenT : n.tbl.txs.length = H
  lenI : n.tbl.inter.length = H
  byHeight : ∀ h, 1 ≤ h → h ≤ H → ∃ b, n.tbl.bodies[h - 1]? = some b ∧ n.tbl.txs[h - 1]? = some b ∧ n.tbl.inter[h - 1]? = some b ∧
      b.height = h ∧ KV.get n.idx.heightIdx h = some b.hash ∧ KV.get n.idx.hashIdx b.hash = some h ∧
      KV.get n.idx.txSet h = some b.txs
  link : ∀ (i : Nat) (b p : Blk), n.tbl.bodies[i + 1]? = some b → n.tbl.bodies[i]? = some p → b.parent = p.hash
  first : ∀ (b : Blk), n.tbl.bodies[0]? = some b → b.parent = "zero"
  distinct : ∀ (i j : Nat) (b c : Blk), n.tbl.bodies[i]? = some b → n.tbl.bodies[j]? = some c → b.hash = c.hash → i = j
  txMeta : ∀ (t : String) (h : Nat) (hs : String) (i : Nat), KV.get n.idx.txMeta t = some (h, hs, i) →
      1 ≤ h ∧ h ≤ H ∧ ∃ b, n.tbl.txs[h - 1]? = some b ∧ b.hash = hs ∧ b.txs[i]? = some t

structure Linked (n : Node) : Prop where
  to : LinkedTo n n.cmeta.1
  headZero : n.cmeta.1 = 0 → n.cmeta.2.1 = "zero"
  head : ∀ (b : Blk), n.tbl.bodies[n.cmeta.1 - 1]? = some b → 1 ≤ n.cmeta.1 → n.cmeta.2.1 = b.hash

theorem Linked.init : Linked ({} : Node) := by
  refine ⟨⟨rfl, rfl, rfl, rfl, ?_, ?_, ?_, ?_, ?_⟩, fun _ => rfl, ?_⟩
  · intro h h1 h2; exact absurd (Nat.le_trans h1 h2) (by decide)
  · intro i b p hb; simp at hb
  · intro b hb; simp at hb
  · intro i j b c hb; simp at hb
  · intro t h hs i hg; cases hg
  · intro b hb h1; simp at h1

theorem LinkedTo.congr {n n' : Node} {H : Nat} (h : LinkedTo n H) (e1 : n'.idx.txSet = n.idx.txSet)
    (e2 : n'.idx.hashIdx = n.idx.hashIdx) (e3 : n'.idx.heightIdx = n.idx.heightIdx) (e4 : n'.idx.txMeta = n.idx.txMeta)
    (e5 : n'.tbl = n.tbl) (e6 : n'.blocks = n.blocks) : LinkedTo n' H := by
  refine ⟨e6 ▸ h.blocks, e5 ▸ h.lenB, e5 ▸ h.lenT, e5 ▸ h.lenI, ?_, e5 ▸ h.link, e5 ▸ h.first, e5 ▸ h.distinct, ?_⟩
  · rw [e1, e2, e3, e5]; exact h.byHeight
  · rw [e4, e5]; exact h.txMeta

theorem Linked.congr {n n' : Node} (h : Linked n) (e1 : n'.idx = n.idx) (e2 : n'.tbl = n.tbl) (e3 : n'.blocks = n.blocks)
    (e4 : n'.cmeta = n.cmeta) : Linked n' := by
  refine ⟨e4 ▸ h.to.congr (by rw [e1]) (by rw [e1]) (by rw [e1]) (by rw [e1]) e2 e3, e4 ▸ h.headZero, ?_⟩
  rw [e2, e4]; exact h.head

def FreshHash (n : Node) (hash : String) : Prop := ∀ c ∈ n.tbl.bodies, c.hash ≠ hash

theorem txMeta_fold (ht : Nat) (hs : String) (zs : List (String × Nat)) (m : KV String (Nat × String × Nat)) (t : String)
    (v : Nat × String × Nat) (h : KV.get (zs.foldl (fun m (p : String × Nat) => KV.set m p.1 (ht, hs, p.2)) m) t = some v) :
    KV.get m t = some v ∨ ∃ i, (t, i) ∈ zs ∧ v = (ht, hs, i) := by
  have h := (KV.get_foldl_put (fun p : String × Nat => p.1) (fun p => some (ht, hs, p.2)) zs m t).symm.trans h
  cases hf : zs.reverse.find? (fun p => p.1 = t) with
  | none => rw [hf] at h; exact Or.inl h
  | some p =>
    rw [hf] at h
    have e : p.1 = t := by simpa using List.find?_some hf
    exact Or.inr ⟨p.2, e ▸ List.mem_reverse.mp (List.mem_of_find?_eq_some hf), (Option.some.inj h).symm⟩

theorem applyBlk_linked (n : Node) (b : Blk) (hL : Linked n) (hh : b.height = n.cmeta.1 + 1) (hp : b.parent = n.cmeta.2.1)
    (hf : FreshHash n b.hash) : Linked (applyBlk n b) := by
  obtain ⟨hT, hz, hd⟩ := hL
  -- the three tables get `b` at position `n.cmeta.1`, the three by-height / by-hash maps a binding under `b.height` / `b.hash`
  have fresh : ∀ {i : Nat} {c : Blk}, n.tbl.bodies[i]? = some c → b.hash ≠ c.hash := fun hc e => hf _ (List.mem_of_getElem? hc) e.symm
  refine ⟨?_, fun h0 => absurd (hh ▸ h0 : n.cmeta.1 + 1 = 0) (Nat.succ_ne_zero _), ?_⟩
  · show LinkedTo (applyBlk n b) b.height
    rw [hh]
    refine ⟨congrArg (· + 1) hT.blocks, length_snoc hT.lenB, length_snoc hT.lenT, length_snoc hT.lenI, ?_, ?_, ?_, ?_, ?_⟩
    · intro h h1 h2
      by_cases hle : h ≤ n.cmeta.1
      · obtain ⟨c, c1, c2, c3, c4, c5, c6, c7⟩ := hT.byHeight h h1 hle
        have hne : b.height ≠ h := hh ▸ Nat.ne_of_gt (Nat.lt_succ_of_le hle)
        exact ⟨c, getElem?_snoc.mpr (Or.inl c1), getElem?_snoc.mpr (Or.inl c2), getElem?_snoc.mpr (Or.inl c3), c4,
          (KV.get_set_ne _ _ _ _ hne).trans c5, (KV.get_set_ne _ _ _ _ (fresh c1)).trans c6, (KV.get_set_ne _ _ _ _ hne).trans c7⟩
      · cases Nat.le_antisymm h2 (Nat.lt_of_not_le hle)
        exact ⟨b, getElem?_snoc_top hT.lenB, getElem?_snoc_top hT.lenT, getElem?_snoc_top hT.lenI, hh,
          hh ▸ KV.get_set_eq _ _ _, hh ▸ KV.get_set_eq _ _ _, hh ▸ KV.get_set_eq _ _ _⟩
    · intro i c p hc hpp
      -- `p` lies below `c`, so it is an old block
      have hi : i + 1 < (n.tbl.bodies ++ [b]).length := (List.getElem?_eq_some_iff.mp hc).1
      rw [List.length_append] at hi
      have hpp : n.tbl.bodies[i]? = some p := (List.getElem?_append_left (Nat.lt_of_succ_lt_succ hi)).symm.trans hpp
      rcases getElem?_snoc.mp hc with hc | ⟨e, rfl⟩
      · exact hT.link i c p hc hpp
      · -- the new block on top of the old head
        have e' : i + 1 = n.cmeta.1 := e.trans hT.lenB
        rw [hp]
        exact hd p (by rw [← e']; exact hpp) (e' ▸ Nat.succ_pos i)
    · intro c hc
      rcases getElem?_snoc.mp hc with hc | ⟨e, rfl⟩
      · exact hT.first c hc
      · rw [hp]; exact hz (by rw [← hT.lenB, ← e])
    · intro i j c d hc hdd he
      rcases getElem?_snoc.mp hc with hc | ⟨ei, rfl⟩ <;> rcases getElem?_snoc.mp hdd with hdd | ⟨ej, rfl⟩
      · exact hT.distinct i j c d hc hdd he
      · exact absurd he.symm (fresh hc)
      · exact absurd he (fresh hdd)
      · rw [ei, ej]
    · intro t h hs i hg
      rcases txMeta_fold b.height b.hash _ _ t _ hg with h1 | ⟨i', hi', e⟩
      · obtain ⟨a1, a2, c, a3, a4, a5⟩ := hT.txMeta t h hs i h1
        exact ⟨a1, Nat.le_succ_of_le a2, c, getElem?_snoc.mpr (Or.inl a3), a4, a5⟩
      · cases e
        exact ⟨hh ▸ Nat.succ_pos _, Nat.le_of_eq hh, b, hh ▸ getElem?_snoc_top hT.lenT, rfl, List.mem_zipIdx_iff_getElem?.mp hi'⟩
  · intro c hc _
    have hc' : (n.tbl.bodies ++ [b])[n.cmeta.1 + 1 - 1]? = some c := hh ▸ hc
    rw [getElem?_snoc_top hT.lenB] at hc'
    cases hc'
    rfl

theorem persist_linked {n n' : Node} {b : Blk} {txs : List String} {ctr : KV String Nat} (hL : Linked n)
    (hf : FreshHash n (mkBlk n txs ctr).hash) (h : persist n txs ctr = some (n', b)) : Linked n' := by
  obtain ⟨rfl, _, _, rfl⟩ := persist_some h
  exact (applyBlk_linked n _ hL rfl rfl hf).congr rfl rfl rfl rfl

def totalCount (l : List Blk) : Nat := (l.map countOf).sum

def CountOk (n : Node) : Prop := n.cmeta.2.2 = totalCount n.tbl.inter

theorem totalCount_append (l : List Blk) (b : Blk) : totalCount (l ++ [b]) = totalCount l + countOf b := by
  simp [totalCount]

theorem totalCount_take_succ (l : List Blk) (i : Nat) (b : Blk) (h : l[i]? = some b) :
    totalCount (l.take (i + 1)) = totalCount (l.take i) + countOf b := by
  rw [List.take_add_one, h]
  exact totalCount_append _ _

theorem applyBlk_count (n : Node) (b : Blk) (h : CountOk n) : CountOk (applyBlk n b) := by
  show countOf b + n.cmeta.2.2 = totalCount (n.tbl.inter ++ [b])
  rw [totalCount_append, ← h]
  exact Nat.add_comm _ _

theorem LinkedTo.lookup {n : Node} {H h : Nat} (hL : LinkedTo n H) (h1 : 1 ≤ h) (h2 : h ≤ H) :
    ∃ b, n.tbl.bodies[h - 1]? = some b ∧ b.height = h ∧ getBlock n h false = some b ∧ getBlock n h true = some b ∧
      getByHash n b.hash = some b ∧ getBlockHash n h = some b.hash ∧ getIMeta n h = some b.counter ∧
      getTxCount n h = some b.txs.length := by
  obtain ⟨b, c1, c2, c3, c4, c5, c6, c7⟩ := hL.byHeight h h1 h2
  exact ⟨b, c1, c4, stored_lookup h1 c1 c2 c3 c5 c6 c7⟩

theorem dropHead_linked {n : Node} {H : Nat} {b : Blk} (hL : LinkedTo n (H + 1)) (hb : n.tbl.bodies[H]? = some b) :
    LinkedTo (dropHead n (H + 1) b) H ∧ totalCount n.tbl.inter = totalCount (dropHead n (H + 1) b).tbl.inter + countOf b := by
  obtain ⟨b', c1, c2, c3, _⟩ := hL.byHeight (H + 1) (Nat.succ_pos H) (Nat.le_refl _)
  cases hb.symm.trans c1
  have len : ∀ {l : List Blk}, l.length = H + 1 → (l.take H).length = H := fun hl => by
    rw [List.length_take, hl]; exact Nat.min_eq_left (Nat.le_succ H)
  have keep : ∀ {l : List Blk} {i : Nat} {c : Blk}, i < H → l[i]? = some c → (l.take H)[i]? = some c := fun hi hc =>
    getElem?_take_some.mpr ⟨hi, hc⟩
  have old : ∀ {i : Nat} {c : Blk}, (n.tbl.bodies.take H)[i]? = some c → n.tbl.bodies[i]? = some c := fun h =>
    (getElem?_take_some.mp h).2
  refine ⟨⟨rfl, len hL.lenB, len hL.lenT, len hL.lenI, ?_, fun i c p h1 h2 => hL.link i c p (old h1) (old h2),
    fun c h1 => hL.first c (old h1), fun i j c d h1 h2 => hL.distinct i j c d (old h1) (old h2), ?_⟩, ?_⟩
  · intro h h1 h2
    obtain ⟨i, rfl⟩ := Nat.exists_eq_add_one_of_ne_zero (Nat.ne_of_gt h1)
    obtain ⟨c, d1, d2, d3, d4, d5, d6, d7⟩ := hL.byHeight (i + 1) h1 (Nat.le_succ_of_le h2)
    have hne : H + 1 ≠ i + 1 := fun e => Nat.ne_of_gt h2 (Nat.succ.inj e)
    have hhash : b.hash ≠ c.hash := fun e => Nat.ne_of_gt h2 (hL.distinct H i b c c1 d1 e)
    exact ⟨c, keep h2 d1, keep h2 d2, keep h2 d3, d4, (KV.get_erase_ne _ _ _ hne).trans d5,
      (KV.get_erase_ne _ _ _ hhash).trans d6, (KV.get_erase_ne _ _ _ hne).trans d7⟩
  · intro t h hs i hg
    have hg' : KV.get (b.txs.foldl KV.erase n.idx.txMeta) t = some (h, hs, i) := hg
    rw [KV.get_foldl_erase] at hg'
    by_cases hnot : t ∈ b.txs
    · rw [if_pos hnot] at hg'; cases hg'
    · rw [if_neg hnot] at hg'
      obtain ⟨a1, a2, c, a3, a4, a5⟩ := hL.txMeta t h hs i hg'
      -- an entry that survives is not one of the head block's transactions, so it points below the head
      have hlt : h ≠ H + 1 := by
        rintro rfl
        cases a3.symm.trans c2
        exact hnot (List.mem_of_getElem? a5)
      have hle : h ≤ H := Nat.le_of_lt_succ (Nat.lt_of_le_of_ne a2 hlt)
      exact ⟨a1, hle, c, keep (Nat.sub_one_lt_of_le a1 hle) a3, a4, a5⟩
  · have := totalCount_take_succ n.tbl.inter H b c3
    rwa [List.take_of_length_le (Nat.le_of_eq hL.lenI)] at this

theorem loop_linked (t : Nat) : ∀ (fuel cnt : Nat) (n : Node), LinkedTo n (t + fuel) →
    ∃ n' cnt', chainRollbackLoop n t fuel (t + fuel) cnt = some (n', cnt') ∧ LinkedTo n' t ∧
      (cnt = totalCount n.tbl.inter → cnt' = totalCount n'.tbl.inter) := by
  intro fuel
  induction fuel with
  | zero => exact fun cnt n hL => ⟨n, cnt, rfl, hL, id⟩
  | succ fuel ih =>
    intro cnt n hL
    obtain ⟨b, h0, _, h1, _, _, _, h2, _⟩ := hL.lookup (Nat.succ_pos (t + fuel)) (Nat.le_refl _)
    obtain ⟨h3, h4⟩ := dropHead_linked hL h0
    obtain ⟨n', cnt', e1, e2, e4⟩ := ih (cnt - countOf b) _ h3
    refine ⟨n', cnt', (loop_round fuel cnt _ (Nat.lt_succ_of_le (Nat.le_add_right t fuel)) hL.blocks).mpr ⟨b, _, h1, h2, e1⟩,
      e2, fun hc => e4 ?_⟩
    rw [hc, h4]
    exact Nat.add_sub_cancel ..

theorem chainRollback_linked (n : Node) (t : Nat) (hL : Linked n) (ht : t ≤ n.cmeta.1) :
    ∃ n', chainRollback n t = .ok n' ∧ Linked n' ∧ (CountOk n → CountOk n') := by
  by_cases he : n.cmeta.1 = t
  · exact ⟨n, he ▸ chainRollback_self n, hL, id⟩
  · have hlt : t < n.cmeta.1 := Nat.lt_of_le_of_ne ht (Ne.symm he)
    have hcur : t + (n.cmeta.1 - t) = n.cmeta.1 := Nat.add_sub_of_le ht
    obtain ⟨n1, cnt, e1, e2, e4⟩ := loop_linked t (n.cmeta.1 - t) n.cmeta.2.2 n (hcur.symm ▸ hL.to)
    rw [hcur] at e1
    have to : ∀ md, LinkedTo (setMeta n1 md) t := fun md => e2.congr rfl rfl rfl rfl rfl rfl
    by_cases h0 : t = 0
    · subst h0
      refine ⟨_, (chainRollback_below hlt).mpr ⟨n1, cnt, e1, Or.inl ⟨rfl, rfl⟩⟩, ⟨to _, fun _ => rfl, fun _ _ (h1 : 1 ≤ 0) => absurd h1 (by decide)⟩,
        fun _ => ?_⟩
      show 0 = totalCount n1.tbl.inter
      rw [List.eq_nil_of_length_eq_zero e2.lenI]; rfl
    · obtain ⟨b, c1, _, c2, _⟩ := e2.lookup (Nat.pos_of_ne_zero h0) (Nat.le_refl t)
      refine ⟨_, (chainRollback_below hlt).mpr ⟨n1, cnt, e1, Or.inr ⟨h0, b, c2, rfl⟩⟩, ⟨to _, fun hz => absurd hz h0, ?_⟩, e4⟩
      intro c hc _
      cases c1.symm.trans hc
      rfl

inductive Step : Node → Node → Prop
  | persist (n n' : Node) (b : Blk) (txs : List String) (ctr : KV String Nat) :
      FreshHash n (mkBlk n txs ctr).hash → persist n txs ctr = some (n', b) → Step n n'
  | rollback (n n' : Node) (t : Nat) : rollback n t = .ok n' → Step n n'

inductive Reach : Node → Prop
  | init : Reach {}
  | step (n n' : Node) : Reach n → Step n n' → Reach n'

theorem step_linked {n n' : Node} (hL : Linked n) (hs : Step n n') : Linked n' ∧ (CountOk n → CountOk n') := by
  cases hs with
  | persist b txs ctr hf hp =>
    refine ⟨persist_linked hL hf hp, fun hC => ?_⟩
    obtain ⟨rfl, _, _, rfl⟩ := persist_some hp
    exact applyBlk_count n _ hC
  | rollback t hr =>
    obtain ⟨st', _, hr⟩ := rollback_ok hr
    by_cases ht : t ≤ n.cmeta.1
    · obtain ⟨n2, e1, e2, e4⟩ := chainRollback_linked { n with st := st' } t (hL.congr rfl rfl rfl rfl) ht
      cases e1.symm.trans hr
      exact ⟨e2, e4⟩
    · -- the chain side refuses a target above the head
      rw [chainRollback_higher (n := { n with st := st' }) (Nat.lt_of_not_le ht)] at hr
      cases hr

theorem reach_inv (n : Node) (h : Reach n) : Linked n ∧ CountOk n := by
  induction h with
  | init => exact ⟨Linked.init, rfl⟩
  | step n n' _ hs ih => exact ⟨(step_linked ih.1 hs).1, (step_linked ih.1 hs).2 ih.2⟩

theorem reach_linked (n : Node) (h : Reach n) : Linked n := (reach_inv n h).1

theorem reach_count (n : Node) (h : Reach n) : CountOk n := (reach_inv n h).2

end Bxh.Chain
