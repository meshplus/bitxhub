import Bxh.Model.Exec
import Bxh.Prelude.Fold
/-!
# What the ledger reads after a write, and what each model function does when it succeeds

One inversion lemma per model function of the interchain and transaction-manager contracts: everything a successful call
implies, proved by one walk through that function.  Where a function returns a ledger with a second component, the hypothesis is
`… = .ok (l', c)` and the conclusion gives `l'` by an equation: `rcases … with ⟨…, rfl, …⟩` then puts the written ledger where
`l'` stood, and `Led.getS_setS` / `Led.getS_addS` rewrite the goal.  `handleIBTP_ok` alone takes `… = .ok r` and speaks of
`r.1`, `r.2`: its ledger is named through `processIBTP`.
-/
namespace Bxh.Exec

@[simp] theorem setBal_store (l : Led) (a : String) (v : Int) : (l.setBal a v).store = l.store := rfl
@[simp] theorem setBal_events (l : Led) (a : String) (v : Int) : (l.setBal a v).events = l.events := rfl
@[simp] theorem finalise_store (l : Led) : l.finalise.store = l.store := rfl
@[simp] theorem finalise_bal (l : Led) : l.finalise.bal = l.bal := rfl

@[simp] theorem Led.getS_setS (l : Led) (k k' : Key) (v : Option Val) :
    (l.setS k v).getS k' = if k = k' then v else l.getS k' := by
  unfold Led.setS Led.getS
  cases v with
  | none => simp only [KV.get_erase]
  | some x => simp only [KV.get_set]

@[simp] theorem Led.getS_addS (l : Led) (k k' : Key) (v : Val) :
    (l.addS k v).getS k' = if k = k' then some v else l.getS k' := by
  unfold Led.addS; simp

@[simp] theorem Led.getS_post (l : Led) (e : Ev) (k : Key) : (l.post e).getS k = l.getS k := rfl
@[simp] theorem Led.getS_setBal (l : Led) (a : String) (v : Int) (k : Key) : (l.setBal a v).getS k = l.getS k := rfl

theorem Led.getBal_setBal (l : Led) (a b : String) (v : Int) :
    (l.setBal a v).getBal b = if a = b then v else l.getBal b := by
  simp only [Led.getBal, Led.setBal, KV.getD, KV.get_set]
  split <;> simp

theorem finalise_getS (l : Led) (k : Key) : l.finalise.getS k = l.getS k := rfl

theorem getS_of_store {l l' : Led} (h : l'.store = l.store) (k : Key) : l'.getS k = l.getS k := by
  unfold Led.getS; rw [h]

theorem getBal_of_bal {l l' : Led} (h : l'.bal = l.bal) (a : String) : l'.getBal a = l.getBal a := by
  unfold Led.getBal; rw [h]

theorem checkIndex_ok_iff (exp cur : Nat) : checkIndex exp cur = .ok () ↔ cur = exp := by
  unfold checkIndex
  constructor
  · intro h
    split at h
    · cases h
    · split at h
      · cases h
      · omega
  · intro h; subst h; simp

theorem IType.isResponse_of_isRequest {ty : IType} (h : ty.isRequest = true) : ty.isResponse = false := by
  cases ty <;> first | rfl | cases h

theorem IType.isRequest_of_isResponse {ty : IType} (h : ty.isResponse = true) : ty.isRequest = false := by
  cases ty <;> first | rfl | cases h

/-- the index gate in the shape in which `checkIBTP` applies it -/
theorem checkIndex_guard {α : Type} {exp cur : Nat} {x y : α}
    (h : (match checkIndex exp cur with | .error e => Except.error e | .ok _ => .ok x) = .ok y) : cur = exp ∧ x = y := by
  cases hc : checkIndex exp cur with
  | error e => rw [hc] at h; cases h
  | ok u => rw [hc] at h; cases h; exact ⟨(checkIndex_ok_iff _ _).mp hc, rfl⟩

/-- the same gate with the exemption of a batch pair (`b`) in front -/
theorem checkIndex_gate {α : Type} {b : Bool} {exp cur : Nat} {x y : α}
    (h : (if (!b) = true then match checkIndex exp cur with | .error e => .error e | .ok _ => .ok x else .ok x) = Except.ok y) :
    x = y ∧ (b = false → cur = exp) := by
  cases b with
  | true => cases h; exact ⟨rfl, nofun⟩
  | false => exact have ⟨hi, hx⟩ := checkIndex_guard h; ⟨hx, fun _ => hi⟩

/-- **everything `checkIBTP` has established when it accepts**: either the request side (a request that is no notice) or the
receipt side (a receipt, or a request by type that is the destination hub's notice) -/
theorem checkIBTP_ok {env : Env} {l : Led} {i : Ibtp} {ck : Checked} (h : checkIBTP env l i = .ok ck) :
    i.frm = some ck.src ∧ i.to = some ck.dst ∧ ck.ic = getIC l ck.src ∧ isNotification l ck.src ck.dst i = some ck.notice ∧
    ((i.typ.isRequest = true ∧ ck.notice = false ∧ checkTarget env l ck.src ck.dst = (ck.isBatch, ck.targetErr) ∧
        (ck.isBatch = false → i.index = KV.getD (getIC l ck.src).ic ck.dst 0 + 1) ∧
        (isLocal env ck.src = true ∧ (∃ s, getSvc l env.cache ck.src.chain ck.src.sid = some s ∧ s.available = true) ∨
         isLocal env ck.src = false ∧ isLocal env ck.dst = true ∧ env.cfg.hubs.contains ck.src.bxh = true)) ∨
     ((i.typ.isResponse = true ∨ ck.notice = true) ∧ (i.typ.isRequest = true → ck.notice = true) ∧ ck.targetErr = false ∧
        i.index = KV.getD (getIC l ck.src).rc ck.dst 0 + 1)) := by
  unfold checkIBTP at h
  cases hf : i.frm with
  | none => rw [hf] at h; cases h
  | some src =>
  cases ht : i.to with
  | none => rw [hf, ht] at h; cases h
  | some dst =>
  cases hn : isNotification l src dst i with
  | none => simp only [hf, ht, hn] at h; cases h
  | some notif =>
  simp only [hf, ht, hn] at h
  cases hq : i.typ.isRequest && !notif with
  | true =>
    obtain ⟨hreq, rfl⟩ : i.typ.isRequest = true ∧ notif = false := by simpa using hq
    rw [hq, if_pos rfl] at h
    cases hl : isLocal env src with
    | true =>
      rw [hl, if_pos rfl] at h
      cases hs : getSvc l env.cache src.chain src.sid with
      | none => rw [hs] at h; cases h
      | some s =>
        cases ha : s.available with
        | false => simp only [hs, ha, Bool.not_false, if_true, reduceCtorEq] at h
        | true =>
          simp only [hs, ha, Bool.not_true, Bool.false_eq_true, if_false] at h
          obtain ⟨rfl, hi⟩ := checkIndex_gate h
          exact ⟨rfl, rfl, rfl, hn, .inl ⟨hreq, rfl, rfl, hi, .inl ⟨hl, s, hs, ha⟩⟩⟩
    | false =>
      cases hd : isLocal env dst with
      | false => simp only [hl, hd, Bool.not_false, Bool.false_eq_true, if_true, if_false, reduceCtorEq] at h
      | true =>
        cases hh : env.cfg.hubs.contains src.bxh with
        | false => simp only [hl, hd, hh, Bool.not_false, Bool.not_true, Bool.false_eq_true, if_true, if_false, reduceCtorEq] at h
        | true =>
          simp only [hl, hd, hh, Bool.not_true, Bool.false_eq_true, if_false] at h
          obtain ⟨rfl, hi⟩ := checkIndex_gate h
          exact ⟨rfl, rfl, rfl, hn, .inl ⟨hreq, rfl, rfl, hi, .inr ⟨hl, hd, hh⟩⟩⟩
  | false =>
    rw [hq, if_neg Bool.false_ne_true] at h
    have hrn : i.typ.isRequest = true → notif = true := by
      intro hr; rw [hr] at hq; simpa using hq
    cases hp : i.typ.isResponse || notif with
    | false => rw [hp, if_neg Bool.false_ne_true] at h; cases h
    | true =>
      have hp' : i.typ.isResponse = true ∨ notif = true := by simpa using hp
      rw [hp, if_pos rfl] at h
      cases hl : isLocal env src with
      | true =>
        rw [hl, if_pos rfl] at h
        cases hs : getSvc l env.cache src.chain src.sid with
        | none => rw [hs] at h; cases h
        | some s =>
          rw [hs] at h
          obtain ⟨hi, rfl⟩ := checkIndex_guard h
          exact ⟨rfl, rfl, rfl, hn, .inr ⟨hp', hrn, rfl, hi⟩⟩
      | false =>
        cases hd : isLocal env dst with
        | false => simp only [hl, hd, Bool.not_false, Bool.false_eq_true, if_true, if_false, reduceCtorEq] at h
        | true =>
          simp only [hl, hd, Bool.not_true, Bool.false_eq_true, if_false] at h
          obtain ⟨hi, rfl⟩ := checkIndex_guard h
          exact ⟨rfl, rfl, rfl, hn, .inr ⟨hp', hrn, rfl, hi⟩⟩

theorem checkIBTP_ok_request {env : Env} {l : Led} {i : Ibtp} {ck : Checked} (h : checkIBTP env l i = .ok ck)
    (hreq : i.typ.isRequest = true) (hn : ck.notice = false) :
    checkTarget env l ck.src ck.dst = (ck.isBatch, ck.targetErr) ∧
    (ck.isBatch = false → i.index = KV.getD (getIC l ck.src).ic ck.dst 0 + 1) ∧
    (isLocal env ck.src = true ∧ (∃ s, getSvc l env.cache ck.src.chain ck.src.sid = some s ∧ s.available = true) ∨
     isLocal env ck.src = false ∧ isLocal env ck.dst = true ∧ env.cfg.hubs.contains ck.src.bxh = true) := by
  obtain ⟨_, _, _, _, ⟨_, _, h⟩ | ⟨_, hrn, _⟩⟩ := checkIBTP_ok h
  · exact h
  · rw [hrn hreq] at hn; cases hn

theorem checkIBTP_ok_response {env : Env} {l : Led} {i : Ibtp} {ck : Checked} (h : checkIBTP env l i = .ok ck)
    (hr : i.typ.isResponse = true ∨ ck.notice = true) :
    ck.targetErr = false ∧ i.index = KV.getD (getIC l ck.src).rc ck.dst 0 + 1 := by
  obtain ⟨_, _, _, _, ⟨hreq, hn, _⟩ | ⟨_, _, h⟩⟩ := checkIBTP_ok h
  · rcases hr with hr | hr
    · rw [IType.isRequest_of_isResponse hr] at hreq; cases hreq
    · rw [hr] at hn; cases hn
  · exact h

theorem checkIBTP_notice {env : Env} {l : Led} {i : Ibtp} {ck : Checked} (h : checkIBTP env l i = .ok ck) :
    isNotification l ck.src ck.dst i = some ck.notice := (checkIBTP_ok h).2.2.2.1

/-- a notice is a request by type whose `Extra` field names BEGIN_FAILURE / BEGIN_ROLLBACK, between two hubs, for a request
this hub has processed -/
theorem checkIBTP_notice_true {env : Env} {l : Led} {i : Ibtp} {ck : Checked} (h : checkIBTP env l i = .ok ck)
    (hn : ck.notice = true) :
    ck.src.bxh ≠ ck.dst.bxh ∧ i.typ.isResponse = false ∧ i.ext.isNotice = true ∧
      (l.getS (.idxReq { frm := ck.src, to := ck.dst, index := i.index })).isSome = true := by
  have h1 := checkIBTP_notice h
  rw [hn] at h1
  unfold isNotification at h1
  split at h1
  · cases h1
  · rename_i hc
    split at h1
    · split at h1
      · cases h1
      · simp only [Option.some.injEq] at h1
        simp only [Bool.or_eq_true, beq_iff_eq, not_or] at hc
        rename_i v hv _
        exact ⟨hc.1, by simpa using hc.2, h1, by rw [hv]; rfl⟩
    · cases h1

theorem checkIBTP_local_no_notice {env : Env} {l : Led} {i : Ibtp} {ck : Checked} (h : checkIBTP env l i = .ok ck)
    (hb : ck.src.bxh = ck.dst.bxh) : ck.notice = false :=
  Bool.eq_false_iff.mpr fun hn => (checkIBTP_notice_true h hn).1 hb

theorem tmBeginInter_ok {l : Led} {cur : Nat} {id : TxId} {t : Nat} {x : Ext} {f : Bool} {l' : Led} {c : StatusChange}
    (e : tmBeginInter l cur id t x f = .ok (l', c)) :
    (l.getS (.txRec id) = none ∧
      l' = l.addS (.txRec id) (.trec { height := recordHeight cur t, status := if f then .beginFailure else .begin }) ∧
      c = { prev := none, cur := if f then .beginFailure else .begin }) ∨
    (∃ rec st', l.getS (.txRec id) = some (.trec rec) ∧ txFsmStep rec.status (noticeEvent x) = some st' ∧
      l' = l.addS (.txRec id) (.trec { rec with status := st' }) ∧ c = { prev := some rec.status, cur := st' }) := by
  unfold tmBeginInter at e
  split at e
  · rename_i rec hrec
    split at e
    · cases e
    · split at e
      · cases e
      · rename_i st' hst; cases e; exact .inr ⟨rec, st', hrec, hst, rfl, rfl⟩
  · cases e
  · rename_i hnone; cases e; exact .inl ⟨hnone, rfl, rfl⟩

theorem tmRemoveTimeout_ok {l l' : Led} {h : Nat} {id : TId} (e : tmRemoveTimeout l h id = .ok l') :
    l' = l ∨ ∃ lst r, l.getS (.timeout h) = some (.tlist lst) ∧ lst ≠ [none] ∧ goRemove lst id = some r ∧
      l' = l.setS (.timeout h) (some (.tlist (normList r))) := by
  unfold tmRemoveTimeout at e
  split at e
  · rename_i lst hl
    split at e
    · cases e; exact .inl rfl
    · rename_i hne
      split at e
      · rename_i r hr; cases e; exact .inr ⟨lst, r, hl, fun e => hne (e ▸ beq_self_eq_true _), hr, rfl⟩
      · cases e
  · cases e; exact .inl rfl

/-- the record of a group after its child `id` reported receipt type `typ` -/
inductive GlobStep (g : Global) (id : TxId) (typ : Nat) : Global → Prop
  /-- a failure receipt while the group is in BEGIN fails every child at once -/
  | flip : g.state = .begin → typ = 2 →
      GlobStep g id typ { g with children := g.children.map (fun p => (p.1, if p.1 = id then Status.failure else Status.beginFailure)),
                                 state := .beginFailure }
  /-- the child makes its step, the group waits for the others -/
  | child {g1 : Global} : ¬ (g.state = .begin ∧ typ = 2) → g1.state = g.state → GlobStep g id typ g1
  /-- the last child makes its step: all `count` children are in `st'`, and the group makes the same step -/
  | finish {st' gs : Status} {g1 : Global} : ¬ (g.state = .begin ∧ typ = 2) →
      txFsmStep ((KV.get g.children id).getD .begin) (receiptEvent typ) = some st' → isMultiFinished st' g1 = true →
      txFsmStep g.state (receiptEvent typ) = some gs → GlobStep g id typ { g1 with state := gs }

theorem tmChangeMulti_ok {l l' : Led} {gid : GId} {g g' : Global} {id : TxId} {typ : Nat}
    (e : tmChangeMulti l gid g id typ = .ok (l', g')) :
    GlobStep g id typ g' ∧ (l' = l ∨ tmRemoveTimeout l g.height (.global gid) = .ok l') := by
  unfold tmChangeMulti at e
  by_cases hc : g.state = .begin ∧ typ = 2
  · rw [if_pos hc] at e
    split at e
    · cases e
    · rename_i h0; cases e; exact ⟨.flip hc.1 hc.2, .inr h0⟩
  · rw [if_neg hc] at e
    simp only at e
    split at e
    · cases e
    · rename_i st' hst
      split at e
      · rename_i hfin
        split at e
        · cases e
        · rename_i gs hgs
          split at e
          · cases e
          · rename_i h0; cases e; exact ⟨.finish hc hst hfin hgs, .inr h0⟩
      · cases e; exact ⟨.child hc rfl, .inl rfl⟩

/-- the record of an existing group `g` after the child `id` joined it (`f`: the child's destination is unusable), and what is
announced when that fails the group -/
inductive GlobBegin (id : TxId) (f : Bool) (g : Global) : Global → StatusChange → Prop
  /-- the group has left BEGIN: the late child takes the group's state -/
  | late {c : StatusChange} : g.state ≠ .begin → GlobBegin id f g { g with children := putChild g.children id g.state } c
  /-- the child cannot begin: the whole group fails at once -/
  | fail {c : StatusChange} : g.state = .begin → c.cur = .beginFailure → c.notifySrc = g.children.map (·.1) →
      c.notifyDst = (g.children.filter (fun p => p.2 == .success)).map (·.1) →
      GlobBegin id f g
        { g with children := putChild (g.children.map (fun p => (p.1, Status.beginFailure))) id .beginFailure, state := .beginFailure } c
  | join {c : StatusChange} : g.state = .begin → f = false → GlobBegin id f g { g with children := putChild g.children id .begin } c

/-- the group's timeout list is left alone, joined (a fresh group that can begin) or left (a group that fails now) -/
theorem tmBeginMulti_ok {l : Led} {cur : Nat} {gid : GId} {id : TxId} {t : Nat} {f : Bool} {n : Nat} {l' : Led} {c : StatusChange}
    (e : tmBeginMulti l cur gid id t f n = .ok (l', c)) :
    ∃ l0 g', (l0 = l ∨ l0 = tmAddTimeout l (recordHeight cur t) (.global gid) ∨ ∃ h, tmRemoveTimeout l h (.global gid) = .ok l0) ∧
      l' = (l0.setS (.glob gid) (some (.glob g'))).setS (.child id) (some (.gid gid)) ∧
      ∀ g, l.getS (.glob gid) = some (.glob g) → GlobBegin id f g g' c := by
  unfold tmBeginMulti at e
  split at e
  · rename_i g hg
    have one : ∀ {g' : Global}, GlobBegin id f g g' c → ∀ g0, l.getS (.glob gid) = some (.glob g0) → GlobBegin id f g0 g' c := by
      intro g' h g0 hg0; rw [hg] at hg0; cases hg0; exact h
    cases hin : (KV.get g.children id).isSome with
    | true => rw [hin, if_pos rfl] at e; cases e
    | false =>
      rw [hin, if_neg Bool.false_ne_true] at e
      by_cases hb : g.state = .begin
      · rw [if_neg (not_not_intro hb)] at e
        cases f with
        | true =>
          rw [if_pos rfl] at e
          cases h0 : tmRemoveTimeout l g.height (.global gid) with
          | error x => rw [h0] at e; cases e
          | ok l0 => rw [h0] at e; cases e; exact ⟨l0, _, .inr (.inr ⟨_, h0⟩), rfl, one (.fail hb rfl rfl rfl)⟩
        | false => rw [if_neg Bool.false_ne_true] at e; cases e; exact ⟨l, _, .inl rfl, rfl, one (.join hb rfl)⟩
      · rw [if_pos hb] at e; cases e; exact ⟨l, _, .inl rfl, rfl, one (.late hb)⟩
  · rename_i hnone
    cases e
    cases f
    · exact ⟨_, _, .inr (.inl rfl), rfl, fun g hg => absurd hg (hnone g)⟩
    · exact ⟨_, _, .inl rfl, rfl, fun g hg => absurd hg (hnone g)⟩

theorem beginTransaction_ok {env : Env} {l : Led} {i : Ibtp} {ck : Checked} {l' : Led} {c : StatusChange}
    (e : beginTransaction env l i ck = .ok (l', c)) :
    (ck.src.bxh ≠ ck.dst.bxh ∧
      tmBeginInter l env.height { frm := ck.src, to := ck.dst, index := i.index } (toU64 i.timeout) i.ext ck.targetErr = .ok (l', c)) ∨
    (ck.src.bxh = ck.dst.bxh ∧ i.group = none ∧
      l' = l.addS (.txRec { frm := ck.src, to := ck.dst, index := i.index })
        (.trec { height := recordHeight env.height (toU64 i.timeout), status := if ck.targetErr then .beginFailure else .begin }) ∧
      c = { prev := none, cur := if ck.targetErr then .beginFailure else .begin }) ∨
    (ck.src.bxh = ck.dst.bxh ∧ ∃ g, i.group = some g ∧
      tmBeginMulti l env.height (globalId ck.src g) { frm := ck.src, to := ck.dst, index := i.index } (toU64 i.timeout) ck.targetErr
        g.length = .ok (l', c)) := by
  unfold beginTransaction at e
  by_cases hb : ck.src.bxh = ck.dst.bxh
  · rw [if_neg (not_not_intro hb)] at e
    cases hg : i.group with
    | none => simp only [hg] at e; cases e; exact .inr (.inl ⟨hb, rfl, rfl, rfl⟩)
    | some g =>
      simp only [hg] at e
      cases h0 : tmBeginMulti l env.height (globalId ck.src g) { frm := ck.src, to := ck.dst, index := i.index } (toU64 i.timeout)
          ck.targetErr g.length with
      | error x => rw [h0] at e; cases e
      | ok r => rw [h0] at e; cases e; exact .inr (.inr ⟨hb, g, rfl, h0⟩)
  · rw [if_pos hb] at e
    cases h0 : tmBeginInter l env.height { frm := ck.src, to := ck.dst, index := i.index } (toU64 i.timeout) i.ext ck.targetErr with
    | error x => rw [h0] at e; cases e
    | ok r => rw [h0] at e; cases e; exact .inl ⟨hb, rfl⟩

/-- what `Report` announces for a group that moved from `g` to `g'` by a receipt of its child `id` -/
def reportChange (g g' : Global) (id : TxId) : StatusChange :=
  let failNow := g.state == .begin && g'.state == .beginFailure
  { prev := some g.state, cur := g'.state, childIds := childIds g',
    notifySrc := (g'.children.filter (fun p => p.1 ≠ id)).map (·.1),
    notifyDst := if failNow then ((g.children.filter (fun p => p.1 ≠ id)).filter (fun p => p.2 == .success)).map (·.1) else [],
    isFailChild := failNow && !(g'.children.filter (fun p => p.1 ≠ id)).isEmpty }

theorem tmReport_ok {l : Led} {id : TxId} {typ : Nat} {l' : Led} {c : StatusChange} (e : tmReport l id typ = .ok (l', c)) :
    (∃ rec st', l.getS (.txRec id) = some (.trec rec) ∧ txFsmStep rec.status (receiptEvent typ) = some st' ∧
      l' = l.setS (.txRec id) (some (.trec { rec with status := st' })) ∧ c = { prev := some rec.status, cur := st' }) ∨
    (∃ gid g g' l1, l.getS (.txRec id) = none ∧ l.getS (.child id) = some (.gid gid) ∧ l.getS (.glob gid) = some (.glob g) ∧
      tmChangeMulti l gid g id typ = .ok (l1, g') ∧
      l' = l1.setS (.glob gid) (some (.glob g')) ∧ c = reportChange g g' id) := by
  unfold tmReport at e
  split at e
  · rename_i rec hrec
    split at e
    · cases e
    · rename_i st' hst; cases e; exact .inl ⟨rec, st', hrec, hst, rfl, rfl⟩
  · cases e
  · rename_i hnone
    split at e
    · rename_i gid hch
      split at e
      · rename_i g hg
        split at e
        · cases e
        · split at e
          · cases e
          · rename_i l1 g' h0
            cases e
            exact .inr ⟨gid, g, g', l1, hnone, hch, hg, h0, rfl, rfl⟩
      · cases e
    · cases e

/-- when the destination side is notified the event names the destination's pier with the batch flag, unless the IBTP is a
failing child of a group of local destinations -/
theorem notifySrcDst_ok (env : Env) (l : Led) (src dst : SvcId) (c : StatusChange) (b : Bool) :
    ∃ l1 l2 m, notifySrcDst env l src dst c b = l2.post (.interchain m) ∧
      (l1 = l ∨ l1 = addToMultiNotify env l c.notifySrc true) ∧ (l2 = l1 ∨ l2 = addToMultiNotify env l1 c.notifyDst false) ∧
      ((notifyFlags c).2 = true →
        KV.get m (if isLocal env dst then dst.chain else unionPier) = some b ∨ (isLocal env dst = true ∧ c.isFailChild = true)) := by
  unfold notifySrcDst
  cases notifyFlags c with
  | mk ns nd =>
  simp only
  obtain ⟨m1, l1, e1, hl1⟩ : ∃ m1 l1, (if ns = true then if isLocal env src = true then ([(src.chain, b)], addToMultiNotify env l c.notifySrc true)
      else ([(unionPier, b)], l) else ([], l)) = (m1, l1) ∧ (l1 = l ∨ l1 = addToMultiNotify env l c.notifySrc true) := by
    by_cases h : ns = true
    · rw [if_pos h]
      by_cases h' : isLocal env src = true
      · rw [if_pos h']; exact ⟨_, _, rfl, .inr rfl⟩
      · rw [if_neg h']; exact ⟨_, _, rfl, .inl rfl⟩
    · rw [if_neg h]; exact ⟨_, _, rfl, .inl rfl⟩
  rw [e1]
  by_cases hnd : nd = true
  · rw [if_pos hnd]
    by_cases hl : isLocal env dst = true
    · rw [if_pos hl, if_pos hl]
      refine ⟨l1, _, _, rfl, hl1, .inr rfl, fun _ => ?_⟩
      cases c.isFailChild with
      | false => exact .inl (KV.get_set_eq ..)
      | true => exact .inr ⟨hl, rfl⟩
    · rw [if_neg hl, if_neg hl]
      exact ⟨l1, l1, _, rfl, hl1, .inl rfl, fun _ => .inl (KV.get_set_eq ..)⟩
  · rw [if_neg hnd]
    exact ⟨l1, l1, m1, rfl, hl1, .inl rfl, fun h => absurd h hnd⟩

theorem handleIBTP_ok {env : Env} {l : Led} {i : Ibtp} {r : Led × String} (h : handleIBTP env l i = .ok r) :
    ∃ ck l1 c, checkIBTP env l i = .ok ck ∧
      (i.typ.isRequest = true ∧ beginTransaction env l i ck = .ok (l1, c) ∨
       i.typ.isRequest = false ∧ i.typ.isResponse = true ∧
         tmReport l { frm := ck.src, to := ck.dst, index := i.index } i.typ.toNat = .ok (l1, c)) ∧
      ∃ p, processIBTP (notifySrcDst env l1 ck.src ck.dst c ck.isBatch) i ck c = p ∧ r.2 = p.2 ∧
        (r.1 = p.1 ∨ r.1 = (p.1.post .audit).post .audit) := by
  unfold handleIBTP at h
  cases hck : checkIBTP env l i with
  | error e => rw [hck] at h; cases h
  | ok ck =>
    simp only [hck] at h
    split at h
    · cases h
    · rename_i l1 c hr
      refine ⟨ck, l1, c, rfl, ?_, _, rfl, ?_⟩
      · cases hreq : i.typ.isRequest with
        | true => rw [hreq, if_pos rfl] at hr; exact .inl ⟨rfl, hr⟩
        | false =>
          rw [hreq, if_neg Bool.false_ne_true] at hr
          cases hresp : i.typ.isResponse with
          | false => rw [hresp, if_neg Bool.false_ne_true] at hr; cases hr
          | true =>
            rw [hresp, if_pos rfl] at hr
            split at hr
            · cases hr
            · rename_i x hx; cases hr; exact .inr ⟨rfl, rfl, hx⟩
      · split at h
        · split at h
          · cases h
          · cases h; exact ⟨rfl, .inr rfl⟩
        · cases h; exact ⟨rfl, .inl rfl⟩

theorem applyBvm_ok {env : Env} {l : Led} {c m : String} {args : List Arg} {l' : Led} {ret : String}
    (e : applyBvm env l c m args = .ok (l', ret)) :
    l' = l ∨ c = "interchain" ∧ m = "DeleteInterchain" ∧ ∃ id, l' = l.setS (.ic id) none := by
  unfold applyBvm at e
  by_cases h1 : (c == "interchain" && m == "DeleteInterchain") = true
  · rw [if_pos h1] at e
    rw [Bool.and_eq_true, beq_iff_eq, beq_iff_eq] at h1
    split at e
    · split at e
      · cases e
      · cases e; exact .inr ⟨h1.1, h1.2, _, rfl⟩
    · cases e
  rw [if_neg h1] at e
  by_cases h2 : (c == "interchain" && m == "GetInterchain") = true
  · rw [if_pos h2] at e
    split at e
    · split at e
      · cases e; exact .inl rfl
      · cases e
    · cases e
  rw [if_neg h2] at e
  by_cases h3 : (c == "txmgr" && m == "GetStatus") = true
  · rw [if_pos h3] at e
    split at e
    · split at e
      · cases e; exact .inl rfl
      · cases e
    · cases e
  rw [if_neg h3] at e
  split at e
  · split at e <;> cases e
  · cases e

end Bxh.Exec
