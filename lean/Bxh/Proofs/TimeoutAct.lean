import Bxh.Proofs.ExecLemmas
/-!
# What `setTimeoutList` decides for one transaction (`timeoutAct`)

`timeoutAct` is one cascade over the transaction, its receipt and the ledger.  It is taken apart here (`timeoutAct_ibtp`): a
transaction that names a one-to-one id is left alone when it is `unbooked`; otherwise a request is decided by `requestAct`, a receipt
by `receiptAct`, anything else is skipped.  Nothing outside this file unfolds `timeoutAct`.
-/
namespace Bxh.Exec

/-- the receipt of a transaction that was accepted and processed on the spot: not FAILED, not the "batch_ibtp" answer -/
def Rcpt.plain (rc : Rcpt) : Prop := rc.ok = true ∧ rc.ret ≠ "batch_ibtp"

instance (rc : Rcpt) : Decidable rc.plain := inferInstanceAs (Decidable (_ ∧ _))

/-- transactions the executor's bookkeeping never looks at: the destination is the hub itself, or a Group request inside one hub
(left to the transaction manager's group bookkeeping) -/
def unbooked (cfg : Cfg) (i : Ibtp) (f t : SvcId) : Bool :=
  t.chain == cfg.bxh || (i.group.isSome && !i.typ.isResponse && f.bxh == t.bxh)

/-- a request between two hubs with a final record is the destination hub's notice and leaves the list the record names -/
def requestAct (l : Led) (h : Nat) (id : TxId) (T : Int) (rc : Rcpt) : TOAct :=
  match finalInterRecord l id with
  | some d => .remove d id
  | none => if rc.plain ∧ rc.txStatus ≠ 1 ∧ 0 < T ∧ T.toNat < maxU64 - h then .add (h + T.toNat) id else .skip

/-- what the bookkeeping decides for a receipt; it is abandoned (`.abort`, Go returns the error before any write) when the record
cannot be read, or when a plain receipt finds neither a record nor a child entry -/
def receiptAct (l : Led) (id : TxId) (rc : Rcpt) : TOAct :=
  if rc.txStatus = 1 then .skip else
  match l.getS (.txRec id) with
  | some (.trec r) => if rc.plain ∨ r.status.isFinal = true then .remove r.height id else .skip
  | some _ => .abort
  | none => if rc.plain ∧ l.getS (.child id) = none then .abort else .skip

variable {cfg : Cfg} {l : Led} {h : Nat} {s : String} {i : Ibtp} {p : ProofKind} {tx : Tx} {rc : Rcpt} {f t : SvcId} {id id' : TxId}
  {T : Int} {d : Nat} {r : Rec}

theorem Rcpt.invalid_iff (rc : Rcpt) : (!rc.ok || rc.ret == "batch_ibtp") = true ↔ ¬ rc.plain := by
  unfold Rcpt.plain; cases rc.ok <;> simp

theorem timeoutAct_ibtp (hf : i.frm = some f) (ht : i.to = some t) :
    timeoutAct cfg l h (.ibtp s i p) rc =
      if unbooked cfg i f t then .skip
      else if i.typ.isRequest then requestAct l h ⟨f, t, i.index⟩ i.timeout rc
      else if i.typ.isResponse then receiptAct l ⟨f, t, i.index⟩ rc
      else .skip := by
  unfold timeoutAct unbooked
  simp only [hf, ht]
  -- `by_cases`, not `split`: `split` would first build the splitters of the record matches further down, which is slow to check
  by_cases hu : (t.chain == cfg.bxh || i.group.isSome && !i.typ.isResponse && f.bxh == t.bxh) = true
  · rw [if_pos hu, if_pos hu]
  rw [if_neg hu, if_neg hu]
  by_cases hreq : i.typ.isRequest = true
  · simp only [hreq, IType.isResponse_of_isRequest hreq, if_true, requestAct]
    cases finalInterRecord l ⟨f, t, i.index⟩ with
    | some d => rfl
    | none =>
      simp only [Option.isSome_none, Bool.false_eq_true, if_false]
      have e : ((!rc.ok || rc.ret == "batch_ibtp") && !false || rc.txStatus == 1) = true ↔ ¬ rc.plain ∨ rc.txStatus = 1 := by
        rw [Bool.not_false, Bool.and_true, Bool.or_eq_true, Rcpt.invalid_iff, beq_iff_eq]
      by_cases hc : ¬ rc.plain ∨ rc.txStatus = 1
      · rw [if_pos (e.mpr hc), if_neg (fun x => hc.elim (· x.1) (x.2.1 ·))]
      · rw [if_neg (fun x => hc (e.mp x))]
        by_cases hT : i.timeout ≤ 0 ∨ i.timeout.toNat ≥ maxU64 - h
        · rw [if_pos hT, if_neg (by omega)]
        · rw [if_neg hT, if_pos ⟨Decidable.not_not.mp (hc ∘ Or.inl), hc ∘ Or.inr, by omega⟩]
  · simp only [hreq, Bool.false_eq_true, if_false, Option.isSome_none]
    by_cases hresp : i.typ.isResponse = true
    · simp only [hresp, if_true, receiptAct]
      have e : ((!rc.ok || rc.ret == "batch_ibtp") && !true || rc.txStatus == 1) = true ↔ rc.txStatus = 1 := by
        rw [Bool.not_true, Bool.and_false, Bool.false_or, beq_iff_eq]
      by_cases hs : rc.txStatus = 1
      · rw [if_pos (e.mpr hs), if_pos hs]
      rw [if_neg (fun x => hs (e.mp x)), if_neg hs]
      cases l.getS (.txRec ⟨f, t, i.index⟩) with
      | none =>
        by_cases hp : rc.plain
        · rw [if_neg (fun x => rc.invalid_iff.mp x hp)]
          cases l.getS (.child ⟨f, t, i.index⟩) with
          | none => rw [if_pos ⟨hp, rfl⟩]
          | some _ => rw [if_neg (fun x => nomatch x.2)]
        · rw [if_pos (rc.invalid_iff.mpr hp), if_neg (fun x => hp x.1)]
      | some v =>
        cases v with
        | trec r =>
          simp only
          by_cases hp : rc.plain ∨ r.status.isFinal = true
          · rw [if_pos hp, if_neg]
            rw [Bool.and_eq_true, Rcpt.invalid_iff, Bool.not_eq_true']
            intro x; rcases hp with hp | hp
            · exact x.1 hp
            · rw [hp] at x; cases x.2
          · rw [if_neg hp, if_pos]
            rw [Bool.and_eq_true, Rcpt.invalid_iff, Bool.not_eq_true']
            exact ⟨hp ∘ Or.inl, Bool.eq_false_iff.mpr (hp ∘ Or.inr)⟩
        | _ => rfl
    · simp only [hresp, Bool.false_eq_true, if_false, ite_self]

theorem requestAct_eq_add :
    requestAct l h id T rc = .add d id' ↔
      finalInterRecord l id = none ∧ rc.plain ∧ rc.txStatus ≠ 1 ∧ 0 < T ∧ T.toNat < maxU64 - h ∧ d = h + T.toNat ∧ id' = id := by
  unfold requestAct
  cases finalInterRecord l id with
  | some d' => exact ⟨nofun, nofun⟩
  | none =>
    dsimp only
    constructor
    · intro e
      split at e
      · rename_i hc; cases e; exact ⟨rfl, hc.1, hc.2.1, hc.2.2.1, hc.2.2.2, rfl, rfl⟩
      · cases e
    · rintro ⟨-, h1, h2, h3, h4, rfl, rfl⟩
      exact if_pos ⟨h1, h2, h3, h4⟩

theorem requestAct_eq_remove :
    requestAct l h id T rc = .remove d id' ↔ finalInterRecord l id = some d ∧ id' = id := by
  unfold requestAct
  cases finalInterRecord l id with
  | some d' =>
    constructor
    · intro e; cases e; exact ⟨rfl, rfl⟩
    · rintro ⟨e, rfl⟩; cases e; rfl
  | none =>
    dsimp only
    refine ⟨fun e => ?_, nofun⟩
    split at e <;> cases e

theorem receiptAct_ne_add : receiptAct l id rc ≠ .add d id' := by
  intro e
  unfold receiptAct at e
  split at e
  · cases e
  · split at e
    · split at e <;> cases e
    · cases e
    · split at e <;> cases e

theorem receiptAct_eq_remove :
    receiptAct l id rc = .remove d id' ↔
      rc.txStatus ≠ 1 ∧ ∃ r, l.getS (.txRec id) = some (.trec r) ∧ (rc.plain ∨ r.status.isFinal = true) ∧ d = r.height ∧ id' = id := by
  constructor
  · intro e
    unfold receiptAct at e
    split at e
    · cases e
    · rename_i hs
      split at e
      · rename_i r hr
        split at e
        · rename_i hp; cases e; exact ⟨hs, r, hr, hp, rfl, rfl⟩
        · cases e
      · cases e
      · split at e <;> cases e
  · rintro ⟨hs, r, hr, hp, rfl, rfl⟩
    unfold receiptAct
    rw [if_neg hs, hr]
    exact if_pos hp

theorem timeoutAct_unparsed (hn : i.frm = none ∨ i.to = none) : timeoutAct cfg l h (.ibtp s i p) rc = .skip := by
  unfold timeoutAct
  rcases hn with hn | hn
  · simp only [hn]
  · cases hf : i.frm <;> simp only [hn, hf]

theorem timeoutAct_ne_skip (hne : timeoutAct cfg l h tx rc ≠ .skip) :
    ∃ s i p f t, tx = .ibtp s i p ∧ i.frm = some f ∧ i.to = some t ∧ unbooked cfg i f t = false ∧
      ((i.typ.isRequest = true ∧ timeoutAct cfg l h tx rc = requestAct l h ⟨f, t, i.index⟩ i.timeout rc) ∨
       (i.typ.isResponse = true ∧ timeoutAct cfg l h tx rc = receiptAct l ⟨f, t, i.index⟩ rc)) := by
  cases tx with
  | ibtp s i p =>
    cases hf : i.frm with
    | none => exact absurd (timeoutAct_unparsed (.inl hf)) hne
    | some f =>
      cases ht : i.to with
      | none => exact absurd (timeoutAct_unparsed (.inr ht)) hne
      | some t =>
        refine ⟨s, i, p, f, t, rfl, hf, ht, ?_⟩
        rw [timeoutAct_ibtp hf ht] at hne ⊢
        by_cases hu : unbooked cfg i f t = true
        · rw [if_pos hu] at hne; exact absurd rfl hne
        rw [if_neg hu] at hne ⊢
        refine ⟨Bool.eq_false_iff.mpr hu, ?_⟩
        by_cases hreq : i.typ.isRequest = true
        · rw [if_pos hreq]; exact .inl ⟨hreq, rfl⟩
        rw [if_neg hreq] at hne ⊢
        by_cases hresp : i.typ.isResponse = true
        · rw [if_pos hresp]; exact .inr ⟨hresp, rfl⟩
        · rw [if_neg hresp] at hne; exact absurd rfl hne
  | _ => exact absurd rfl hne

theorem timeoutAct_request (hf : i.frm = some f) (ht : i.to = some t) (hreq : i.typ.isRequest = true) (hu : unbooked cfg i f t = false) :
    timeoutAct cfg l h (.ibtp s i p) rc = requestAct l h ⟨f, t, i.index⟩ i.timeout rc := by
  rw [timeoutAct_ibtp hf ht, hu, if_neg Bool.false_ne_true, if_pos hreq]

theorem unbooked_eq_false :
    unbooked cfg i f t = false ↔ t.chain ≠ cfg.bxh ∧ (i.group = none ∨ i.typ.isResponse = true ∨ f.bxh ≠ t.bxh) := by
  rw [unbooked, Bool.or_eq_false_iff, Bool.and_eq_false_iff, Bool.and_eq_false_iff, beq_eq_false_iff_ne, beq_eq_false_iff_ne,
    Bool.not_eq_false', Option.isSome_eq_false_iff, Option.isNone_iff_eq_none, or_assoc]

theorem unbooked_receipt (hresp : i.typ.isResponse = true) :
    unbooked cfg i f t = (t.chain == cfg.bxh) := by
  rw [unbooked, hresp, Bool.not_true, Bool.and_false, Bool.false_and, Bool.or_false]

theorem Rcpt.not_plain (h : rc.ok = false ∨ rc.ret = "batch_ibtp") : ¬ rc.plain :=
  fun hp => h.elim (fun h => by rw [hp.1] at h; cases h) hp.2

theorem timeoutAct_request_skip (hf : i.frm = some f) (ht : i.to = some t) (hreq : i.typ.isRequest = true)
    (hopen : finalInterRecord l ⟨f, t, i.index⟩ = none)
    (hno : ¬ (rc.plain ∧ rc.txStatus ≠ 1 ∧ 0 < i.timeout ∧ i.timeout.toNat < maxU64 - h)) :
    timeoutAct cfg l h (.ibtp s i p) rc = .skip := by
  rw [timeoutAct_ibtp hf ht, if_pos hreq, requestAct, hopen]
  by_cases hu : unbooked cfg i f t = true
  · exact if_pos hu
  · rw [if_neg hu]; exact if_neg hno

theorem timeoutAct_receipt_skip (hf : i.frm = some f) (ht : i.to = some t) (hresp : i.typ.isResponse = true)
    (hrec : l.getS (.txRec ⟨f, t, i.index⟩) = some (.trec r)) (hp : ¬ rc.plain) (hwait : r.status.isFinal = false) :
    timeoutAct cfg l h (.ibtp s i p) rc = .skip := by
  rw [timeoutAct_ibtp hf ht, IType.isRequest_of_isResponse hresp, if_neg Bool.false_ne_true, if_pos hresp, receiptAct, hrec]
  by_cases hu : unbooked cfg i f t = true
  · exact if_pos hu
  · rw [if_neg hu]
    by_cases hs : rc.txStatus = 1
    · exact if_pos hs
    · rw [if_neg hs]; exact if_neg (fun x => x.elim hp (fun y => by rw [hwait] at y; cases y))

theorem timeoutAct_other (hf : i.frm = some f) (ht : i.to = some t) (hreq : i.typ.isRequest = false) (hresp : i.typ.isResponse = false) :
    timeoutAct cfg l h (.ibtp s i p) rc = .skip := by
  rw [timeoutAct_ibtp hf ht, hreq, hresp]
  exact ite_self _

theorem timeoutAct_eq_add :
    timeoutAct cfg l h tx rc = .add d id ↔
    ∃ s i p, tx = .ibtp s i p ∧ i.frm = some id.frm ∧ i.to = some id.to ∧ i.index = id.index ∧ i.typ.isRequest = true ∧
      unbooked cfg i id.frm id.to = false ∧ finalInterRecord l id = none ∧ rc.plain ∧ rc.txStatus ≠ 1 ∧
      0 < i.timeout ∧ i.timeout.toNat < maxU64 - h ∧ d = h + i.timeout.toNat := by
  constructor
  · intro e
    obtain ⟨s, i, p, f, t, rfl, hf, ht, hu, ⟨hreq, e'⟩ | ⟨-, e'⟩⟩ := timeoutAct_ne_skip (by rw [e]; nofun)
    · obtain ⟨h1, h2, h3, h4, h5, h6, rfl⟩ := requestAct_eq_add.mp (e'.symm.trans e)
      exact ⟨s, i, p, rfl, hf, ht, rfl, hreq, hu, h1, h2, h3, h4, h5, h6⟩
    · exact absurd (e'.symm.trans e) receiptAct_ne_add
  · rintro ⟨s, i, p, rfl, hf, ht, hix, hreq, hu, h1, h2, h3, h4, h5, h6⟩
    rw [timeoutAct_request hf ht hreq hu, hix]
    exact requestAct_eq_add.mpr ⟨h1, h2, h3, h4, h5, h6, rfl⟩

theorem timeoutAct_eq_remove :
    timeoutAct cfg l h tx rc = .remove d id ↔
    ∃ s i p, tx = .ibtp s i p ∧ i.frm = some id.frm ∧ i.to = some id.to ∧ i.index = id.index ∧ unbooked cfg i id.frm id.to = false ∧
      ((i.typ.isRequest = true ∧ finalInterRecord l id = some d) ∨
       (i.typ.isResponse = true ∧ rc.txStatus ≠ 1 ∧
          ∃ r, l.getS (.txRec id) = some (.trec r) ∧ (rc.plain ∨ r.status.isFinal = true) ∧ d = r.height)) := by
  constructor
  · intro e
    obtain ⟨s, i, p, f, t, rfl, hf, ht, hu, ⟨hreq, e'⟩ | ⟨hresp, e'⟩⟩ := timeoutAct_ne_skip (by rw [e]; nofun)
    · obtain ⟨h1, rfl⟩ := requestAct_eq_remove.mp (e'.symm.trans e)
      exact ⟨s, i, p, rfl, hf, ht, rfl, hu, .inl ⟨hreq, h1⟩⟩
    · obtain ⟨h1, r, h2, h3, h4, rfl⟩ := receiptAct_eq_remove.mp (e'.symm.trans e)
      exact ⟨s, i, p, rfl, hf, ht, rfl, hu, .inr ⟨hresp, h1, r, h2, h3, h4⟩⟩
  · rintro ⟨s, i, p, rfl, hf, ht, hix, hu, ⟨hreq, h1⟩ | ⟨hresp, h1, r, h2, h3, h4⟩⟩
    · rw [timeoutAct_request hf ht hreq hu, hix]
      exact requestAct_eq_remove.mpr ⟨h1, rfl⟩
    · rw [timeoutAct_ibtp hf ht, hu, if_neg Bool.false_ne_true, IType.isRequest_of_isResponse hresp, if_neg Bool.false_ne_true, if_pos hresp, hix]
      exact receiptAct_eq_remove.mpr ⟨h1, r, h2, h3, h4, rfl⟩

end Bxh.Exec
