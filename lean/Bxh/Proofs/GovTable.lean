import Bxh.Model.GovTable
import Bxh.Prelude.Fold
/-! Helper lemmas about the proposal table: every operation keeps concluded entries as they are. -/
namespace Bxh.GovTable

@[reducible] def Keeps (t t' : Table) : Prop := ∀ (k : Nat) (e : Entry), t[k]? = some e → e.status.final = true → t'[k]? = some e

theorem Keeps.refl (t : Table) : Keeps t t := fun _ _ h _ => h

theorem Keeps.trans {a b c : Table} (h1 : Keeps a b) (h2 : Keeps b c) : Keeps a c :=
  fun k e hk hf => h2 k e (h1 k e hk hf) hf

/-- `changeProposalStatus` on an entry that is not concluded: how every operation but `endObj` rewrites an entry -/
theorem setAt_keeps {t : Table} {i : Nat} {e : Entry} (he : t[i]? = some e) (hs : e.status.final = false) (s : St) :
    Keeps t (setAt t i s) := by
  intro k e' hk hf
  by_cases hik : i = k
  · subst hik
    rw [he] at hk; cases hk
    rw [hs] at hf; cases hf
  · simp [setAt, hk, hik]

theorem append_keeps (t l : Table) : Keeps t (t ++ l) := by
  intro k e hk _
  rw [List.getElem?_append_left (List.getElem?_eq_some_iff.mp hk).1]; exact hk

theorem lockLow_keeps (t : Table) (obj : String) (prio : Nat) : Keeps t (lockLow t obj prio).1 := by
  fun_cases lockLow t obj prio with
  | case1 i hi =>
    obtain ⟨hlt, hp, _⟩ := List.findIdx?_eq_some_iff_getElem.mp hi
    simp only [Bool.and_eq_true, beq_iff_eq] at hp
    exact setAt_keeps (List.getElem?_eq_getElem hlt) (by rw [hp.1.2]; rfl) _
  | case2 => exact Keeps.refl t

theorem unlock_keeps (t : Table) (i : Nat) (r : Bool) : Keeps t (unlock t i r) := by
  fun_cases unlock t i r with
  | case1 e he hp => exact setAt_keeps he (by rw [hp]; rfl) _
  | case2 | case3 => exact Keeps.refl t

theorem handleResult_keeps (t : Table) (i : Nat) : Keeps t (handleResult t i) := by
  fun_cases handleResult t i with
  | case1 => exact unlock_keeps _ _ _
  | case2 | case3 => exact Keeps.refl t

theorem endObj_keeps (t : Table) (obj : String) : Keeps t (endObj t obj) := by
  intro k e hk hf
  simp only [endObj, List.getElem?_map, hk, Option.map_some]
  have : ¬ (e.obj = obj ∧ (e.status = .paused ∨ e.status = .proposed)) := by
    rintro ⟨_, h | h⟩ <;> rw [h] at hf <;> cases hf
  simp [this]

/-- what `conclude`, `electorate` and `withdraw` do to an entry that is not concluded yet -/
theorem conclude_keeps {t : Table} {i : Nat} {e : Entry} (he : t[i]? = some e) (hs : e.status.final = false) (s : St) :
    Keeps t (handleResult (setAt t i s) i) :=
  (setAt_keeps he hs s).trans (handleResult_keeps _ _)

theorem step_keeps (t : Table) (op : Op) : Keeps t (step t op) := by
  -- the branches of `step` as it is written: `submit`; three of `conclude` (the entry is open, is not, is missing); three each of
  -- `electorate`, `withdraw` (the entry is final, is not, is missing); `endObj`; `lockObj`; two of `unlockObj`
  fun_cases step t op with
  | case1 obj prio => exact (lockLow_keeps t obj prio).trans (append_keeps _ _)
  | case2 i a e he hp => exact conclude_keeps he (by rw [hp]; rfl) _
  | case6 i a e he hp | case9 i e he hp => exact conclude_keeps he (by simpa using hp) _
  | case11 obj => exact endObj_keeps t obj
  | case12 obj prio => exact lockLow_keeps t obj prio
  | case13 => exact unlock_keeps _ _ _
  | case3 | case4 | case5 | case7 | case8 | case10 | case14 => exact Keeps.refl t

theorem run_keeps (t : Table) (ops : List Op) : Keeps t (run t ops) :=
  foldl_inv (P := Keeps t) (fun s op h => h.trans (step_keeps s op)) ops (Keeps.refl t)

theorem run_append (t : Table) (a b : List Op) : run t (a ++ b) = run (run t a) b := by
  simp [run, List.foldl_append]

end Bxh.GovTable
