import Bxh.Proofs.LedgerStore
/-!
# What `flush`, `Commit`, `RollbackState` and `NewSimpleLedger` return; the loop of `RollbackState` applies the journals of the blocks, newest first

`flush` (`FlushDirtyData`) turns the dirty accounts of a block into the accounts handed to `Commit` (`flushItems`) and the journal
entries of the block (`flush_journal`), and adds them to the account cache (`flush_cache`).  What a successful `commit`, `rollback`, `reopen`
return has named fields (`Committed`, `RolledBack`, `Reopened`).  `rollbackLoop_spec`: the loop of
`RollbackState` over heights whose journals are the entries of the blocks `J` leaves what `revertBlocks` leaves.  That reverting the
entries undoes the commits is `reverts_commits` (one block, `LedgerStore`) and C12 (any number of blocks).
-/
namespace Bxh.Ledger
open Bxh

def commitBlocks (bs : List (List Item)) (db : DB) : DB := bs.foldl (fun db items => commits items db) db

def revertBlocks : List (List Item) → DB → DB
  | [], D => D
  | items :: rest, D => reverts items (revertBlocks rest D)

/-- every block's accounts are distinct and mirror the database the block was committed on -/
def CohBlocks : DB → List (List Item) → Prop
  | _, [] => True
  | db, items :: rest => (items.map (·.1)).Nodup ∧ (∀ p ∈ items, Coh db p.1 p.2) ∧ CohBlocks (commits items db) rest

/-- the account object after the lazy load of its origin code in `getJournalIfModified` -/
def loadOrigin (l : L) (a : Addr) (acc : Acct) : Acct :=
  if acc.originCode.isNone && !(acc.originAcc.isNone || beq ((acc.originAcc.bind (·.codeHash))) none) then
    { acc with originCode := KV.get l.db.code a }
  else acc

theorem loadOrigin_states (l : L) (a : Addr) (acc : Acct) :
    (loadOrigin l a acc).dirtyState = acc.dirtyState ∧ (loadOrigin l a acc).originState = acc.originState := by
  unfold loadOrigin; split <;> exact ⟨rfl, rfl⟩

theorem changedKeys_loadOrigin (l : L) (a : Addr) (acc : Acct) : changedKeys (loadOrigin l a acc) = changedKeys acc := by
  unfold changedKeys; rw [(loadOrigin_states l a acc).1, (loadOrigin_states l a acc).2]

theorem loadOrigin_dirtyState (l : L) (a : Addr) (acc : Acct) : (loadOrigin l a acc).dirtyState = acc.dirtyState :=
  (loadOrigin_states l a acc).1

/-- `getJournalIfModified` hands out an entry -/
def isModified (acc : Acct) : Bool :=
  innerChanged acc.originAcc acc.dirtyAcc || !beq acc.originCode acc.dirtyCode || !(changedKeys acc).isEmpty

theorem journalOf_eq (l : L) (a : Addr) (acc : Acct) :
    journalOf l a acc =
      (if isModified (loadOrigin l a acc) then some (entryOf a (loadOrigin l a acc)) else none, loadOrigin l a acc) := by
  unfold journalOf loadOrigin isModified
  simp only []
  split <;> split <;> rfl

theorem journalOf_snd (l : L) (a : Addr) (acc : Acct) : (journalOf l a acc).2 = loadOrigin l a acc := by rw [journalOf_eq]

def flushItems (l : L) : List Item :=
  (l.accounts.map (fun p => (p.1, journalOf l p.1 p.2))).filterMap
    (fun p => match p.2.1 with | some _ => some (p.1, p.2.2) | none => none)

theorem flush_accounts (H : RootPre → String) (l : L) : (flush H l).2.accounts = flushItems l := rfl

theorem flush_cache (H : RootPre → String) (l : L) :
    (flush H l).1.cache = (flushItems l).foldl (fun c p => cacheAdd c p.1 p.2) l.cache := rfl

theorem flushItems_eq (l : L) :
    flushItems l = (l.accounts.map (fun p => (p.1, loadOrigin l p.1 p.2))).filter (fun p => isModified p.2) := by
  unfold flushItems
  induction l.accounts with
  | nil => rfl
  | cons x rest ih =>
    rw [List.map_cons, List.map_cons, List.filterMap_cons, List.filter_cons, ih, journalOf_eq]
    cases isModified (loadOrigin l x.1 x.2) <;> rfl

theorem mem_flushItems {l : L} {a : Addr} {x : Acct} :
    (a, x) ∈ flushItems l ↔ ∃ acc, (a, acc) ∈ l.accounts ∧ x = loadOrigin l a acc ∧ isModified x = true := by
  rw [flushItems_eq, List.mem_filter, List.mem_map]
  constructor
  · rintro ⟨⟨p, hp, e⟩, hm⟩
    cases e
    exact ⟨p.2, hp, rfl, hm⟩
  · rintro ⟨acc, hacc, rfl, hm⟩
    exact ⟨⟨(a, acc), hacc, rfl⟩, hm⟩

theorem flushItems_mem_of (l : L) (a : Addr) (acc : Acct) (hmem : (a, acc) ∈ l.accounts)
    (hd : (journalOf l a acc).1.isSome = true) : (a, loadOrigin l a acc) ∈ flushItems l := by
  refine mem_flushItems.mpr ⟨acc, hmem, rfl, ?_⟩
  rw [journalOf_eq] at hd
  split at hd
  · assumption
  · cases hd

theorem flushItems_sublist (l : L) : ((flushItems l).map (·.1)).Sublist (l.accounts.map (·.1)) := by
  rw [flushItems_eq]
  refine (List.Sublist.map _ List.filter_sublist).trans ?_
  rw [List.map_map]
  exact List.Sublist.refl _

theorem flushItems_nodup {l : L} (h : (l.accounts.map (·.1)).Nodup) : ((flushItems l).map (·.1)).Nodup :=
  (flushItems_sublist l).nodup h

theorem flush_journal (H : RootPre → String) (l : L) :
    ∃ bj, KV.get (flush H l).1.blockJournals (flush H l).2.root = some bj ∧
      bj.entries = (flushItems l).map (fun p => entryOf p.1 p.2) := by
  refine ⟨_, KV.get_set_eq _ _ _, ?_⟩
  show (l.accounts.map (fun p => (p.1, journalOf l p.1 p.2))).filterMap (fun p => p.2.1) = _
  rw [flushItems_eq]
  induction l.accounts with
  | nil => rfl
  | cons x rest ih =>
    rw [List.map_cons, List.map_cons, List.filterMap_cons, List.filter_cons, ih, journalOf_eq]
    cases isModified (loadOrigin l x.1 x.2) <;> rfl

/-- `removeJournalsBeforeBlock` for a height up to the head -/
theorem pruneJournals_eq (l : L) (h : Nat) (hle : h ≤ l.maxJ) :
    pruneJournals l h =
      if h ≤ l.minJ then l
      else { l with db := { l.db with journals := l.db.journals.filter (fun p => !(l.minJ ≤ p.1 && p.1 < h)), minH := h }, minJ := h } := by
  unfold pruneJournals
  rw [if_neg (Nat.not_lt.mpr hle)]

structure Committed (l : L) (h : Nat) (f : Flushed) (bj : BlockJournal) (l' : L) : Prop where
  -- `l'` is `l` except for the fields named; those given by `l'` itself are said by the other two fields
  eq : l' = { l with db := { commits f.accounts l.db with journals := l'.db.journals, minH := l'.db.minH, maxH := h },
                     minJ := l'.minJ, maxJ := h, blockJournals := [] }
  journal : KV.get l'.db.journals h = some bj
  minJ : l'.minJ =
    if h > journalWindow then
      (if h - journalWindow ≤ (if l.minJ = 0 then h else l.minJ) then (if l.minJ = 0 then h else l.minJ) else h - journalWindow)
    else (if l.minJ = 0 then h else l.minJ)

/-- the last step of `Commit`: pruning keeps the journal of the head -/
theorem commit_prune (l1 : L) (h : Nat) (hmax : l1.maxJ = h) :
    ∃ J M, (if h > journalWindow then pruneJournals l1 (h - journalWindow) else l1) =
        { l1 with db := { l1.db with journals := J, minH := M },
                  minJ := if h > journalWindow then (if h - journalWindow ≤ l1.minJ then l1.minJ else h - journalWindow) else l1.minJ } ∧
      KV.get J h = KV.get l1.db.journals h := by
  by_cases hw : h > journalWindow
  · rw [if_pos hw, if_pos hw, pruneJournals_eq l1 _ (by rw [hmax]; exact Nat.sub_le _ _)]
    by_cases hle : h - journalWindow ≤ l1.minJ
    · rw [if_pos hle, if_pos hle]; exact ⟨_, _, rfl, rfl⟩
    · rw [if_neg hle, if_neg hle]
      refine ⟨_, _, rfl, ?_⟩
      rw [KV.get_filter_key l1.db.journals (fun k => !(decide (l1.minJ ≤ k) && decide (k < h - journalWindow))) h,
        if_pos (by simp)]
  · rw [if_neg hw, if_neg hw]; exact ⟨_, _, rfl, rfl⟩

/-- `Commit` before the pruning -/
def commitWritten (l : L) (h : Nat) (f : Flushed) (bj : BlockJournal) : L :=
  { l with db := { commits f.accounts l.db with journals := KV.set (commits f.accounts l.db).journals h bj,
                                                   minH := if l.minJ = 0 then h else (commits f.accounts l.db).minH, maxH := h },
           minJ := if l.minJ = 0 then h else l.minJ, maxJ := h }

theorem commit_eq {l : L} {f : Flushed} {bj : BlockJournal} (h : Nat) (hbj : KV.get l.blockJournals f.root = some bj) :
    commit l h f =
      some { (if h > journalWindow then pruneJournals (commitWritten l h f bj) (h - journalWindow) else commitWritten l h f bj) with
        blockJournals := [] } := by
  unfold commit commitWritten
  rw [hbj]
  by_cases hm : l.minJ = 0
  · simp -zeta only [if_pos hm]; rfl
  · simp -zeta only [if_neg hm]; rfl

theorem commit_spec {l l' : L} {h : Nat} {f : Flushed} (hc : commit l h f = some l') :
    ∃ bj, KV.get l.blockJournals f.root = some bj ∧ Committed l h f bj l' := by
  cases hbj : KV.get l.blockJournals f.root with
  | none => unfold commit at hc; rw [hbj] at hc; cases hc
  | some bj =>
    refine ⟨bj, rfl, ?_⟩
    obtain ⟨J, M, e, hJ⟩ := commit_prune (commitWritten l h f bj) h rfl
    rw [commit_eq h hbj, e] at hc
    cases hc
    exact ⟨rfl, hJ.trans (KV.get_set_eq _ _ _), rfl⟩

theorem commit_state_cache {l l' : L} {h : Nat} {f : Flushed} (hc : commit l h f = some l') :
    l'.db.state = (commits f.accounts l.db).state ∧ l'.cache = l.cache := by
  obtain ⟨bj, _, hC⟩ := commit_spec hc
  rw [hC.eq]; exact ⟨rfl, rfl⟩

theorem commit_accounts {l l' : L} {h : Nat} {f : Flushed} (hc : commit l h f = some l') : l'.accounts = l.accounts := by
  obtain ⟨bj, _, hC⟩ := commit_spec hc
  rw [hC.eq]

structure RolledBack (l : L) (t : Nat) (l2 : L) : Prop where
  below : t < l.maxJ
  loop : rollbackLoop l.db t (l.maxJ - t) l.maxJ = (l2.db, true)
  eq : l2 = { l with accounts := [], cache := {}, db := l2.db, prevRoot := l2.prevRoot, minJ := l2.minJ, maxJ := t }
  zero : t = 0 → l2.prevRoot = zeroRoot
  root : t ≠ 0 → ∃ bj, KV.get l2.db.journals t = some bj ∧ l2.prevRoot = bj.root

theorem rollback_ok {l l2 : L} {t : Nat} (h : rollback l t = .ok l2) : (l.maxJ = t ∧ l2 = l) ∨ RolledBack l t l2 := by
  unfold rollback at h
  by_cases h1 : l.maxJ < t
  · rw [if_pos h1] at h; cases h
  by_cases h2 : l.minJ > t ∧ ¬ (l.minJ = 1 ∧ t = 0)
  · rw [if_neg h1, if_pos h2] at h; cases h
  by_cases h3 : l.maxJ = t
  · rw [if_neg h1, if_neg h2, if_pos h3] at h; cases h; exact Or.inl ⟨h3, rfl⟩
  rw [if_neg h1, if_neg h2, if_neg h3] at h
  have hlt : t < l.maxJ := by omega
  refine Or.inr ?_
  simp only at h
  generalize hl : rollbackLoop l.db t (l.maxJ - t) l.maxJ = r at h
  obtain ⟨db', ok⟩ := r
  cases ok
  · cases h
  · by_cases h0 : t = 0
    · simp only [h0, Bool.not_true, Bool.false_eq_true, if_false, ne_eq, not_true_eq_false] at h
      cases h; exact ⟨hlt, hl, by rw [h0], fun _ => rfl, fun hne => absurd h0 hne⟩
    · simp only [h0, Bool.not_true, Bool.false_eq_true, if_false, ne_eq, not_false_eq_true, if_true] at h
      split at h
      · cases h; exact ⟨hlt, hl, rfl, fun e => absurd e h0, fun _ => ⟨_, by assumption, rfl⟩⟩
      · cases h

theorem rollback_self (l : L) (hw : l.minJ ≤ l.maxJ) : rollback l l.maxJ = .ok l := by
  have h2 : ¬ (l.minJ > l.maxJ ∧ ¬ (l.minJ = 1 ∧ l.maxJ = 0)) := by omega
  unfold rollback
  simp only [Nat.lt_irrefl, if_false, h2, if_true]

/-- what `NewSimpleLedger` on the database of `l` returns -/
structure Reopened (l l1 : L) : Prop where
  db : l1.db = l.db
  accounts : l1.accounts = []
  cache : l1.cache = {}
  minJ : l1.minJ = l.db.minH
  maxJ : l1.maxJ = l.db.maxH
  root : l1.maxJ ≠ 0 → ∃ bj, KV.get l1.db.journals l1.maxJ = some bj ∧ l1.prevRoot = bj.root

theorem reopen_ok {l l1 : L} (h : reopen l = some l1) : Reopened l l1 := by
  unfold reopen at h
  simp only at h
  split at h
  · split at h
    · cases h; exact ⟨rfl, rfl, rfl, rfl, rfl, fun _ => ⟨_, by assumption, rfl⟩⟩
    · cases h
  · cases h
    exact ⟨rfl, rfl, rfl, rfl, by show 0 = l.db.maxH; omega, fun h0 => absurd rfl h0⟩

theorem revertEntries_comm (es : List JEntry) (db : DB) (js : KV Nat BlockJournal) (m : Nat) :
    es.foldl revertEntry { db with journals := js, maxH := m } = { es.foldl revertEntry db with journals := js, maxH := m } := by
  induction es generalizing db with
  | nil => rfl
  | cons e es ih =>
    rw [List.foldl_cons, List.foldl_cons, ← ih, revertEntry_eq, revertEntry_eq]; rfl

theorem revertEntries_journals (es : List JEntry) (db : DB) : (es.foldl revertEntry db).journals = db.journals :=
  foldl_inv (P := fun d : DB => d.journals = db.journals) (fun d e h => by rw [revertEntry_eq]; exact h) es rfl

theorem revertBlocks_comm (bs : List (List Item)) (db : DB) (js : KV Nat BlockJournal) (m : Nat) :
    revertBlocks bs { db with journals := js, maxH := m } = { revertBlocks bs db with journals := js, maxH := m } := by
  induction bs with
  | nil => rfl
  | cons items rest ih => unfold revertBlocks; rw [ih]; exact revertEntries_comm _ _ js m

theorem revertBlocks_concat (bs : List (List Item)) (last : List Item) (D : DB) :
    revertBlocks (bs ++ [last]) D = revertBlocks bs (reverts last D) := by
  induction bs with
  | nil => rfl
  | cons items rest ih => simp only [List.cons_append, revertBlocks, ih]

/-- the blocks at heights `t+1 … t+n`, oldest first -/
def blocksOf (J : Nat → List Item) (t : Nat) : Nat → List (List Item)
  | 0 => []
  | n+1 => blocksOf J t n ++ [J (t + n + 1)]

theorem rollbackLoop_journals (t fuel : Nat) : ∀ (db : DB) (cur j : Nat), j ≤ t →
    KV.get (rollbackLoop db t fuel cur).1.journals j = KV.get db.journals j := by
  induction fuel with
  | zero => intro db cur j _; rfl
  | succ fuel ih =>
    intro db cur j hj
    unfold rollbackLoop
    by_cases hc : cur ≤ t
    · rw [if_pos hc]
    · rw [if_neg hc]
      cases KV.get db.journals cur with
      | none => rfl
      | some bj =>
        show KV.get (rollbackLoop _ t fuel (cur - 1)).1.journals j = _
        rw [ih _ _ j hj]
        show KV.get (KV.erase (bj.entries.foldl revertEntry db).journals cur) j = _
        rw [KV.get_erase_ne _ _ _ (by omega), revertEntries_journals]

theorem rollbackLoop_spec (J : Nat → List Item) (t n : Nat) (db : DB)
    (hj : ∀ j, t < j → j ≤ t + n → ∃ bj, KV.get db.journals j = some bj ∧ bj.entries = (J j).map (fun p => entryOf p.1 p.2)) :
    ∃ db', rollbackLoop db t n (t + n) = (db', true) ∧
      db' = { revertBlocks (blocksOf J t n) db with journals := db'.journals, maxH := db'.maxH } := by
  induction n generalizing db with
  | zero => exact ⟨db, rfl, rfl⟩
  | succ n ih =>
    obtain ⟨bj, hbj, hent⟩ := hj (t + n + 1) (by omega) (by omega)
    -- one round: the entries of the newest block are applied (they leave the journals alone), then its journal goes
    obtain ⟨db2, hdb2⟩ : ∃ db2, db2 = { reverts (J (t + n + 1)) db with journals := KV.erase db.journals (t + n + 1), maxH := t + n } := ⟨_, rfl⟩
    have hstep : rollbackLoop db t (n + 1) (t + n + 1) = rollbackLoop db2 t n (t + n) := by
      rw [hdb2, ← revertEntries_journals ((J (t + n + 1)).map (fun p => entryOf p.1 p.2)) db, reverts, ← hent, rollbackLoop,
        if_neg (by omega), hbj]
      rfl
    obtain ⟨db', hl, hsame⟩ := ih db2 (fun j h1 h2 => by
      rw [hdb2]
      rw [KV.get_erase_ne _ _ _ (by omega)]
      exact hj j h1 (by omega))
    refine ⟨db', hstep.trans hl, ?_⟩
    rw [hdb2, revertBlocks_comm] at hsame
    rw [blocksOf, revertBlocks_concat]
    exact hsame

theorem rollback_below {l l2 : L} {t : Nat} (ht : t < l.maxJ) (hr : rollback l t = .ok l2) :
    l2 = { l with accounts := [], cache := {}, db := l2.db, prevRoot := l2.prevRoot, minJ := l2.minJ, maxJ := t } ∧
    (∀ j, j ≤ t → KV.get l2.db.journals j = KV.get l.db.journals j) ∧
    (t = 0 → l2.prevRoot = zeroRoot) ∧ (t ≠ 0 → ∃ bj, KV.get l2.db.journals t = some bj ∧ l2.prevRoot = bj.root) := by
  rcases rollback_ok hr with ⟨e, _⟩ | h
  · exact absurd e (Nat.ne_of_gt ht)
  · exact ⟨h.eq, fun j hj => by rw [← rollbackLoop_journals t (l.maxJ - t) l.db l.maxJ j hj, h.loop], h.zero, h.root⟩

theorem rollback_spec (J : Nat → List Item) {l l2 : L} {t n : Nat} (hm : l.maxJ = t + n)
    (hj : ∀ j, t < j → j ≤ t + n → ∃ bj, KV.get l.db.journals j = some bj ∧ bj.entries = (J j).map (fun p => entryOf p.1 p.2))
    (hr : rollback l t = .ok l2) :
    l2.db = { revertBlocks (blocksOf J t n) l.db with journals := l2.db.journals, maxH := l2.db.maxH } := by
  obtain ⟨db', hl, hsame⟩ := rollbackLoop_spec J t n l.db hj
  rcases rollback_ok hr with ⟨e, rfl⟩ | h
  · -- nothing above the target: no block to revert
    obtain rfl : n = 0 := by omega
    rfl
  · have hl2 := h.loop
    rw [hm, Nat.add_sub_cancel_left, hl] at hl2
    cases hl2
    exact hsame

end Bxh.Ledger
