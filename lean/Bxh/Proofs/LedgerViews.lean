import Bxh.Model.Ledger
import Bxh.Prelude.Fold
/-!
# Reads and journaled writes of the ledger model, as views

Reads are described by pure "views" (`viewAcct`, `peekState`, `peekInner`: what `GetAccount` / `GetState` / `GetBalance` would answer,
without their memoisation).  Every read and journaled write of storage, balance and nonce (`getOrCreate`, `getState`, `setState`,
`setBalance`, `setNonce`; code is not treated) leaves a ledger that differs from the one before in the object of one
account and in the journal (`PutObj`); what the views show afterwards is read off that shape once, and so is what a block's writes never
touch (`Frame`).
-/
namespace Bxh.Ledger
open Bxh

/-- what `GetAccount` builds for an account that is not among the block's objects -/
def loadAcct (l : L) (a : Addr) : Option Acct :=
  match KV.get l.cache.inner a with
  | some ia =>
    some (if !beq ia.codeHash none then
      { originAcc := some ia, originCode := loadCode l a, dirtyCode := loadCode l a }
    else { originAcc := some ia })
  | none =>
    match KV.get l.db.acct a with
    | some ia =>
      some (if !beq ia.codeHash none then
        { originAcc := some ia, originCode := KV.get l.db.code a, dirtyCode := KV.get l.db.code a }
      else { originAcc := some ia })
    | none => none

theorem getAccount_eq (l : L) (a : Addr) :
    getAccount l a = match KV.get l.accounts a with
      | some acc => (l, some acc)
      | none => match loadAcct l a with
        | some acc => ({ l with accounts := KV.set l.accounts a acc }, some acc)
        | none => (l, none) := by
  unfold getAccount loadAcct
  cases KV.get l.accounts a with
  | some acc => rfl
  | none =>
    cases KV.get l.cache.inner a with
    | some ia => rfl
    | none => cases KV.get l.db.acct a <;> rfl

theorem loadAcct_states {l : L} {a : Addr} {acc : Acct} (h : loadAcct l a = some acc) : acc.dirtyState = [] ∧ acc.originState = [] := by
  unfold loadAcct at h
  split at h
  · cases h; split <;> exact ⟨rfl, rfl⟩
  · split at h
    · cases h; split <;> exact ⟨rfl, rfl⟩
    · cases h

def viewAcct (l : L) (a : Addr) : Option Acct :=
  match KV.get l.accounts a with
  | some acc => some acc
  | none => loadAcct l a

/-- what the layers below the block's objects hold for a storage key -/
def below (l : L) (a : Addr) (k : String) : Bytes :=
  match (KV.get l.cache.state a).bind (fun m => KV.get m k) with
  | some cv => cv
  | none => KV.get l.db.state (a, k)

def rdAcct (l : L) (a : Addr) (k : String) (acc : Acct) : Bytes :=
  match KV.get acc.dirtyState k with
  | some v => v
  | none =>
    match KV.get acc.originState k with
    | some v => v
    | none => below l a k

def peekState (l : L) (a : Addr) (k : String) : Bytes :=
  match viewAcct l a with
  | some acc => rdAcct l a k acc
  | none => below l a k

/-- the inner account the reads of an account object answer from -/
def ivOf (acc : Acct) : Inner := acc.dirtyAcc.getD (copyOrNew acc.originAcc)

def peekInner (l : L) (a : Addr) : Inner :=
  match viewAcct l a with
  | some acc => ivOf acc
  | none => {}

def belowInner (l : L) (a : Addr) : Inner := ((KV.get l.cache.inner a).or (KV.get l.db.acct a)).getD {}

def objOf (l : L) (a : Addr) : Acct := (viewAcct l a).getD {}

theorem peekState_eq (l : L) (a : Addr) (k : String) : peekState l a k = rdAcct l a k (objOf l a) := by
  unfold peekState objOf; cases viewAcct l a <;> rfl

theorem peekInner_eq (l : L) (a : Addr) : peekInner l a = ivOf (objOf l a) := by
  unfold peekInner objOf; cases viewAcct l a <;> rfl

theorem objOf_of_present {l : L} {a : Addr} {acc : Acct} (h : KV.get l.accounts a = some acc) : objOf l a = acc := by
  unfold objOf viewAcct; rw [h]; rfl

theorem peekState_of_present {l : L} {a : Addr} {acc : Acct} (h : KV.get l.accounts a = some acc) (k : String) :
    peekState l a k = rdAcct l a k acc := by
  rw [peekState_eq, objOf_of_present h]

theorem peekInner_of_present {l : L} {a : Addr} {acc : Acct} (h : KV.get l.accounts a = some acc) : peekInner l a = ivOf acc := by
  rw [peekInner_eq, objOf_of_present h]

theorem peekState_not_object (l : L) (a : Addr) (k : String) (h : KV.get l.accounts a = none) : peekState l a k = below l a k := by
  unfold peekState viewAcct
  rw [h]
  cases hl : loadAcct l a with
  | none => rfl
  | some acc =>
    obtain ⟨h1, h2⟩ := loadAcct_states hl
    simp only [rdAcct, h1, h2, KV.get]

theorem peekState_no_objects (l : L) (h : l.accounts = []) (a : Addr) (k : String) : peekState l a k = below l a k :=
  peekState_not_object l a k (by rw [h]; rfl)

theorem loadAcct_ivOf (l : L) (a : Addr) : (loadAcct l a).map ivOf = (KV.get l.cache.inner a).or (KV.get l.db.acct a) := by
  unfold loadAcct
  cases KV.get l.cache.inner a with
  | some ia => show some (ivOf (if _ then _ else _)) = some ia; split <;> rfl
  | none =>
    cases KV.get l.db.acct a with
    | some ia => show some (ivOf (if _ then _ else _)) = some ia; split <;> rfl
    | none => rfl

theorem peekInner_not_object (l : L) (a : Addr) (h : KV.get l.accounts a = none) : peekInner l a = belowInner l a := by
  unfold peekInner viewAcct belowInner
  rw [h, ← loadAcct_ivOf]
  cases loadAcct l a <;> rfl

section
variable {l l' : L} (hc : l'.cache = l.cache) (hd : l'.db = l.db)
include hc hd

theorem below_congr (a : Addr) (k : String) : below l' a k = below l a k := by
  unfold below; rw [hc, hd]

theorem rdAcct_congr (a : Addr) (k : String) (acc : Acct) : rdAcct l' a k acc = rdAcct l a k acc := by
  unfold rdAcct; rw [below_congr hc hd]

theorem loadAcct_congr (a : Addr) : loadAcct l' a = loadAcct l a := by
  unfold loadAcct loadCode; rw [hc, hd]

theorem viewAcct_congr (a : Addr) (ha : KV.get l'.accounts a = KV.get l.accounts a) : viewAcct l' a = viewAcct l a := by
  unfold viewAcct; rw [ha, loadAcct_congr hc hd]

theorem peekState_congr (a : Addr) (ha : KV.get l'.accounts a = KV.get l.accounts a) (k : String) : peekState l' a k = peekState l a k := by
  rw [peekState_eq, peekState_eq, objOf, objOf, viewAcct_congr hc hd a ha, rdAcct_congr hc hd]

theorem peekInner_congr (a : Addr) (ha : KV.get l'.accounts a = KV.get l.accounts a) : peekInner l' a = peekInner l a := by
  unfold peekInner; rw [viewAcct_congr hc hd a ha]

end

structure PutObj (l : L) (a : Addr) (obj : Acct) (cs : List Change) (r : L) : Prop where
  -- `r` is `l` except for the two fields named: every other projection of `r` reduces to that of `l` after `rw [h.eq]`
  eq : r = { l with accounts := r.accounts, changes := r.changes }
  changes : r.changes = l.changes ++ cs
  get : ∀ b, KV.get r.accounts b = if a = b then some obj else KV.get l.accounts b
  nodup : (l.accounts.map (·.1)).Nodup → (r.accounts.map (·.1)).Nodup

namespace PutObj
variable {l m r : L} {a : Addr} {obj obj' : Acct} {cs cs' : List Change}

theorem cache (h : PutObj l a obj cs r) : r.cache = l.cache := by rw [h.eq]
theorem db (h : PutObj l a obj cs r) : r.db = l.db := by rw [h.eq]
theorem self (h : PutObj l a obj cs r) : KV.get r.accounts a = some obj := by rw [h.get, if_pos rfl]
theorem other (h : PutObj l a obj cs r) {b : Addr} (hb : a ≠ b) : KV.get r.accounts b = KV.get l.accounts b := by rw [h.get, if_neg hb]

theorem ofPutAcct (l : L) (a : Addr) (obj : Acct) : PutObj l a obj [] (putAcct l a obj) where
  eq := rfl
  changes := (List.append_nil _).symm
  get b := KV.get_set l.accounts a b obj
  nodup hn := KV.set_nodup _ a obj hn

theorem replace (h : PutObj l a obj cs r) (obj' : Acct) : PutObj l a obj' cs (putAcct r a obj') where
  eq := by rw [h.eq]; rfl
  changes := h.changes
  get b := by
    show KV.get (KV.set r.accounts a obj') b = _
    rw [KV.get_set, h.get]
    split <;> rfl
  nodup hn := KV.set_nodup _ a obj' (h.nodup hn)

theorem journal (h : PutObj l a obj cs r) (cs' : List Change) : PutObj l a obj (cs ++ cs') { r with changes := r.changes ++ cs' } where
  eq := by rw [h.eq]
  changes := by rw [h.changes, List.append_assoc]
  get := h.get
  nodup := h.nodup

theorem ofPutJournal (l : L) (a : Addr) (obj : Acct) (cs : List Change) : PutObj l a obj cs { putAcct l a obj with changes := l.changes ++ cs } :=
  (ofPutAcct l a obj).journal cs

theorem objOf_after (h : PutObj l a obj cs r) (b : Addr) : objOf r b = if a = b then obj else objOf l b := by
  unfold objOf viewAcct
  rw [h.get b, loadAcct_congr h.cache h.db]
  by_cases hb : a = b
  · rw [if_pos hb, if_pos hb]; rfl
  · rw [if_neg hb, if_neg hb]

theorem peekState_after (h : PutObj l a obj cs r) (b : Addr) (k : String) :
    peekState r b k = if a = b then rdAcct l a k obj else peekState l b k := by
  rw [peekState_eq, h.objOf_after b, rdAcct_congr h.cache h.db]
  split
  · rename_i hb; rw [hb]
  · rw [peekState_eq]

theorem peekInner_after (h : PutObj l a obj cs r) (b : Addr) : peekInner r b = if a = b then ivOf obj else peekInner l b := by
  rw [peekInner_eq, h.objOf_after b]
  split
  · rfl
  · rw [peekInner_eq]

end PutObj

/-- the creation mark `GetOrCreateAccount` journals -/
def created (l : L) (a : Addr) : List Change := if (viewAcct l a).isSome then [] else [.createObject a]

theorem getOrCreate_put (l : L) (a : Addr) : PutObj l a (objOf l a) (created l a) (getOrCreate l a).1 ∧ (getOrCreate l a).2 = objOf l a := by
  unfold getOrCreate objOf created viewAcct
  rw [getAccount_eq]
  cases h1 : KV.get l.accounts a with
  | some acc =>
    refine ⟨⟨rfl, (List.append_nil _).symm, fun b => ?_, id⟩, rfl⟩
    by_cases hb : a = b
    · rw [if_pos hb, ← hb]; exact h1
    · rw [if_neg hb]
  | none =>
    cases h2 : loadAcct l a with
    | some acc => exact ⟨.ofPutAcct l a acc, rfl⟩
    | none => exact ⟨.ofPutJournal l a {} _, rfl⟩

theorem getOrCreate_obj (l : L) (a : Addr) : (getOrCreate l a).2 = objOf l a := (getOrCreate_put l a).2

theorem getOrCreate_cache_db (l : L) (a : Addr) : (getOrCreate l a).1.cache = l.cache ∧ (getOrCreate l a).1.db = l.db :=
  ⟨(getOrCreate_put l a).1.cache, (getOrCreate_put l a).1.db⟩

theorem getOrCreate_reads (l : L) (a : Addr) (k : String) : rdAcct l a k (getOrCreate l a).2 = peekState l a k := by
  rw [getOrCreate_obj, peekState_eq]

/-- the object after `GetState` looked up `k` in it -/
def memo (l : L) (a : Addr) (k : String) (acc : Acct) : Acct :=
  match KV.get acc.dirtyState k with
  | some _ => acc
  | none =>
    match KV.get acc.originState k with
    | some _ => acc
    | none => { acc with originState := KV.set acc.originState k (below l a k) }

theorem memo_cases (l : L) (a : Addr) (k : String) (acc : Acct) :
    (memo l a k acc = acc ∧ ((KV.get acc.dirtyState k).isSome = true ∨ (KV.get acc.originState k).isSome = true)) ∨
    (KV.get acc.originState k = none ∧ memo l a k acc = { acc with originState := KV.set acc.originState k (below l a k) }) := by
  unfold memo
  cases h1 : KV.get acc.dirtyState k with
  | some _ => exact Or.inl ⟨rfl, Or.inl rfl⟩
  | none =>
    cases h2 : KV.get acc.originState k with
    | some _ => exact Or.inl ⟨rfl, Or.inr rfl⟩
    | none => exact Or.inr ⟨rfl, rfl⟩

theorem ivOf_memo (l : L) (a : Addr) (k : String) (acc : Acct) : ivOf (memo l a k acc) = ivOf acc := by
  rcases memo_cases l a k acc with ⟨e, _⟩ | ⟨_, e⟩ <;> rw [e] <;> rfl

theorem rdAcct_memo (l : L) (a : Addr) (k k' : String) (acc : Acct) : rdAcct l a k' (memo l a k acc) = rdAcct l a k' acc := by
  rcases memo_cases l a k acc with ⟨e, _⟩ | ⟨h2, e⟩
  · rw [e]
  · rw [e]
    unfold rdAcct
    simp only [KV.get_set]
    split
    · rfl
    · by_cases hk : k = k'
      · rw [if_pos hk, ← hk, h2]
      · rw [if_neg hk]

theorem getState_put (l : L) (a : Addr) (k : String) :
    PutObj l a (memo l a k (objOf l a)) (created l a) (getState l a k).1 ∧ (getState l a k).2 = peekState l a k := by
  obtain ⟨hP, hobj⟩ := getOrCreate_put l a
  rw [peekState_eq]
  unfold memo rdAcct
  rw [← below_congr hP.cache hP.db]
  unfold getState
  cases hg : getOrCreate l a with
  | mk l1 acc =>
    rw [hg] at hP hobj
    simp only at hP hobj ⊢
    rw [← hobj] at hP ⊢
    cases h1 : KV.get acc.dirtyState k with
    | some v => exact ⟨hP, rfl⟩
    | none =>
      cases h2 : KV.get acc.originState k with
      | some v => exact ⟨hP, rfl⟩
      | none => exact ⟨hP.replace _, rfl⟩

theorem rdAcct_setDirty (l : L) (a : Addr) (k' : String) (acc : Acct) (k : String) (v : Bytes) :
    rdAcct l a k' { acc with dirtyState := KV.set acc.dirtyState k v } = if k = k' then v else rdAcct l a k' acc := by
  unfold rdAcct
  simp only [KV.get_set]
  by_cases hk : k = k'
  · rw [if_pos hk, if_pos hk]
  · rw [if_neg hk, if_neg hk]

theorem setState_eq (l : L) (a : Addr) (k : String) (v : Bytes) :
    setState l a k v =
      { putAcct (getState l a k).1 a { memo l a k (objOf l a) with dirtyState := KV.set (memo l a k (objOf l a)).dirtyState k v } with
        changes := (getState l a k).1.changes ++ [.storage a k (peekState l a k)] } := by
  obtain ⟨hP, hv⟩ := getState_put l a k
  unfold setState
  cases hg : getState l a k with
  | mk l1 prev =>
    rw [hg] at hP hv
    simp only at hP hv ⊢
    rw [hP.self, hv]
    rfl

theorem setState_put (l : L) (a : Addr) (k : String) (v : Bytes) :
    PutObj l a { memo l a k (objOf l a) with dirtyState := KV.set (memo l a k (objOf l a)).dirtyState k v }
      (created l a ++ [.storage a k (peekState l a k)]) (setState l a k v) := by
  rw [setState_eq]; exact ((getState_put l a k).1.replace _).journal _

theorem acct_balance_iv (acc : Acct) : acc.balance = (ivOf acc).balance := by
  unfold Acct.balance ivOf copyOrNew
  cases acc.dirtyAcc with
  | some d => rfl
  | none => cases acc.originAcc <;> rfl

theorem acct_nonce_iv (acc : Acct) : acc.nonce = (ivOf acc).nonce := by
  unfold Acct.nonce ivOf copyOrNew
  cases acc.dirtyAcc with
  | some d => rfl
  | none => cases acc.originAcc <;> rfl

/-- the shape `SetBalance` and `SetNonce` share -/
def innerWrite (l : L) (a : Addr) (f : Inner → Inner) (c : Change) : L :=
  { putAcct (getOrCreate l a).1 a { objOf l a with dirtyAcc := some (f (ivOf (objOf l a))) } with
    changes := (getOrCreate l a).1.changes ++ [c] }

theorem innerWrite_put (l : L) (a : Addr) (f : Inner → Inner) (c : Change) :
    PutObj l a { objOf l a with dirtyAcc := some (f (ivOf (objOf l a))) } (created l a ++ [c]) (innerWrite l a f c) :=
  ((getOrCreate_put l a).1.replace _).journal _

theorem setBalance_eq (l : L) (a : Addr) (v : Int) :
    setBalance l a v = innerWrite l a (fun d => { d with balance := v }) (.balance a (peekInner l a).balance) := by
  unfold setBalance innerWrite
  simp only []
  rw [getOrCreate_obj, acct_balance_iv, peekInner_eq]
  rfl

theorem setNonce_eq (l : L) (a : Addr) (v : Nat) :
    setNonce l a v = innerWrite l a (fun d => { d with nonce := v }) (.nonce a (peekInner l a).nonce) := by
  unfold setNonce innerWrite
  simp only []
  rw [getOrCreate_obj, acct_nonce_iv, peekInner_eq]
  rfl

theorem getState_peek (l : L) (a : Addr) (k : String) : (getState l a k).2 = peekState l a k := (getState_put l a k).2

theorem getBalance_peek (l : L) (a : Addr) : (getBalance l a).2 = (peekInner l a).balance := by
  unfold getBalance; simp only; rw [acct_balance_iv, getOrCreate_obj, peekInner_eq]

theorem getNonce_peek (l : L) (a : Addr) : (getNonce l a).2 = (peekInner l a).nonce := by
  unfold getNonce; simp only; rw [acct_nonce_iv, getOrCreate_obj, peekInner_eq]

theorem peekState_setState (l : L) (a : Addr) (k : String) (v : Bytes) (b : Addr) (k' : String) :
    peekState (setState l a k v) b k' = if b = a ∧ k' = k then v else peekState l b k' := by
  rw [(setState_put l a k v).peekState_after, rdAcct_setDirty, rdAcct_memo, ← peekState_eq]
  by_cases hb : a = b
  · by_cases hk : k = k'
    · rw [if_pos hb, if_pos hk, if_pos ⟨hb.symm, hk.symm⟩]
    · rw [if_pos hb, if_neg hk, if_neg (fun h => hk h.2.symm), hb]
  · rw [if_neg hb, if_neg (fun h => hb h.1.symm)]

/-- a storage write: `SetState` (`val = none`: `Delete`) -/
structure SWrite where
  addr : Addr
  key : String
  val : Bytes
deriving Repr, DecidableEq

def writes (ws : List SWrite) (l : L) : L := ws.foldl (fun l w => setState l w.addr w.key w.val) l

/-- a journaled write: `SetState` / `Delete`, `SetBalance`, `SetNonce` -/
inductive Write
  | storage (a : Addr) (k : String) (v : Bytes)
  | balance (a : Addr) (v : Int)
  | nonce (a : Addr) (v : Nat)
deriving Repr, DecidableEq

def applyWrite (l : L) : Write → L
  | .storage a k v => setState l a k v
  | .balance a v => setBalance l a v
  | .nonce a v => setNonce l a v

def applyWrites (ws : List Write) (l : L) : L := ws.foldl applyWrite l

theorem writes_eq (ws : List SWrite) (l : L) : writes ws l = applyWrites (ws.map (fun w => .storage w.addr w.key w.val)) l := by
  unfold writes applyWrites; rw [List.foldl_map]; rfl

theorem applyWrite_put (l : L) (w : Write) : ∃ a obj cs, PutObj l a obj cs (applyWrite l w) := by
  cases w with
  | storage a k v => exact ⟨_, _, _, setState_put l a k v⟩
  | balance a v => exact ⟨_, _, _, setBalance_eq l a v ▸ innerWrite_put l a _ _⟩
  | nonce a v => exact ⟨_, _, _, setNonce_eq l a v ▸ innerWrite_put l a _ _⟩

/-- the fields of the ledger a block's writes never touch -/
structure Frame (l r : L) : Prop where
  db : r.db = l.db
  cache : r.cache = l.cache
  prevRoot : r.prevRoot = l.prevRoot
  minJ : r.minJ = l.minJ
  maxJ : r.maxJ = l.maxJ
  bj : r.blockJournals = l.blockJournals

theorem applyWrites_eq (ws : List Write) (l : L) :
    applyWrites ws l = { l with accounts := (applyWrites ws l).accounts, changes := (applyWrites ws l).changes } :=
  foldl_inv (P := fun s : L => s = { l with accounts := s.accounts, changes := s.changes })
    (fun s w h => by obtain ⟨_, _, _, hP⟩ := applyWrite_put s w; rw [hP.eq, h]) ws rfl

theorem applyWrites_revs (ws : List Write) (l : L) :
    (applyWrites ws l).revisions = l.revisions ∧ (applyWrites ws l).nextRev = l.nextRev := by
  rw [applyWrites_eq]; exact ⟨rfl, rfl⟩

theorem writes_revs (ws : List SWrite) (l : L) : (writes ws l).revisions = l.revisions ∧ (writes ws l).nextRev = l.nextRev := by
  rw [writes_eq]; exact applyWrites_revs _ l

theorem applyWrites_frame (ws : List Write) (l : L) : Frame l (applyWrites ws l) := by
  rw [applyWrites_eq]; exact ⟨rfl, rfl, rfl, rfl, rfl, rfl⟩

theorem writes_frame (ws : List SWrite) (l : L) : Frame l (writes ws l) := by
  rw [writes_eq]; exact applyWrites_frame _ l

end Bxh.Ledger
