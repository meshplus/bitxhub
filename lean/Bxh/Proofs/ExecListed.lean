import Bxh.Proofs.ExecListedE
import Bxh.Proofs.TimeoutList
import Bxh.Proofs.TimeoutAct
/-!
# Who puts a one-to-one id on a timeout list: only `setTimeoutList`, only for an accepted request of the block

The transactions of a block put no one-to-one id on any list (the counts of `ExecListedE.lean`), and the bookkeeping adds an id only for
a request with a successful receipt (`timeoutAct_add`, `count_addsAt`).  `reqFor` / `reqOk` say "an accepted request naming `t`"
of a (transaction, receipt) pair.
-/
namespace Bxh.Exec
open Bxh

theorem applyTxs_count (cfg : Cfg) (cache : KV (String × String) Svc) (hgt : Nat) (l : Led) (txs : List (Tx × Bool)) (d : Nat) (t : TxId) :
    listCount (applyTxs cfg cache hgt l txs).led d t ≤ listCount l d t := Nat.le_of_eq (applyTxs_count_eq cfg cache hgt l txs d t)

theorem applyTx_listed (env : Env) (l : Led) (tx : Tx) (inv : Option String) (d : Nat) (t : TxId)
    (h : listedAt (applyTx env l tx inv).1 d t) : listedAt l d t := by
  rwa [listedAt_iff_count, applyTx_count_eq, ← listedAt_iff_count] at h

theorem applyTxs_listed (cfg : Cfg) (cache : KV (String × String) Svc) (hgt : Nat) (l : Led) (txs : List (Tx × Bool)) (d : Nat) (t : TxId)
    (h : listedAt (applyTxs cfg cache hgt l txs).led d t) : listedAt l d t := by
  rwa [listedAt_iff_count, applyTxs_count_eq, ← listedAt_iff_count] at h

theorem timeoutAct_add {cfg : Cfg} {l : Led} {h : Nat} {tx : Tx} {rc : Rcpt} {d : Nat} {id : TxId}
    (e : timeoutAct cfg l h tx rc = .add d id) :
    ∃ s i p, tx = .ibtp s i p ∧ i.frm = some id.frm ∧ i.to = some id.to ∧ i.index = id.index ∧ i.typ.isRequest = true ∧ rc.ok = true := by
  obtain ⟨s, i, p, htx, hf, ht, hix, hreq, _, _, hp, _⟩ := timeoutAct_eq_add.mp e
  exact ⟨s, i, p, htx, hf, ht, hix, hreq, hp.1⟩

theorem setTimeoutList_listed (cfg : Cfg) (l : Led) (h : Nat) (txs : List Tx) (rcpts : List Rcpt) (d : Nat) (t : TxId)
    (hl : listedAt (setTimeoutList cfg l h txs rcpts) d t) :
    listedAt l d t ∨ t ∈ addsAt d ((txs.zip rcpts).map (fun p => timeoutAct cfg l h p.1 p.2)) := by
  rw [listedAt_iff_count] at hl ⊢
  have := setTimeoutList_count_le cfg l h txs rcpts d t
  by_cases h0 : 0 < listCount l d t
  · exact .inl h0
  · exact .inr (List.count_pos_iff.mp (by omega))

theorem mem_addsAt {d : Nat} {acts : List TOAct} {t : TxId} (h : t ∈ addsAt d acts) : TOAct.add d t ∈ acts := mem_addsAt_iff.mp h

theorem listAfter_unlisted (v : Option Val) (A R : List TxId) (lst : List (Option TId)) (t : TxId)
    (hA : t ∉ A) (hR : t ∈ R) (hc : (curList v).count (some (TId.single t)) ≤ 1)
    (e : listAfter v A R = some (.tlist lst)) : some (TId.single t) ∉ lst := by
  have : lst = curList (listAfter v A R) := by rw [e]; rfl
  rw [this, curList_listAfter, ← List.count_eq_zero]
  exact count_bookRems_of_mem hR (by rw [count_bookAdds, List.count_eq_zero.mpr hA]; exact hc)

theorem mem_remsAt_of {d : Nat} {acts : List TOAct} {t : TxId} (h : TOAct.remove d t ∈ acts) : t ∈ remsAt d acts := mem_remsAt_iff.mpr h

/-- `applyTxs_fold` with the index of the transaction as the only unknown of its environment -/
theorem applyTxs_zip_fold (cfg : Cfg) (cache : KV (String × String) Svc) (hgt : Nat) (G : Tx → Prop) (Φ : Led → List (Tx × Rcpt) → Prop)
    (hstep : ∀ idx l zs tx inv, G tx → Φ l zs →
      Φ (applyTx { cfg := cfg, cache := cache, height := hgt, txIndex := idx } l tx inv).1
        (zs ++ [(tx, (applyTx { cfg := cfg, cache := cache, height := hgt, txIndex := idx } l tx inv).2.rcpt)]))
    (l : Led) (h0 : Φ l []) (txs : List (Tx × Bool)) (hg : ∀ p ∈ txs, G p.1) :
    Φ (applyTxs cfg cache hgt l txs).led ((txs.map (·.1)).zip (applyTxs cfg cache hgt l txs).rcpts) :=
  applyTxs_fold cfg cache hgt G Φ
    (fun env l zs tx inv e1 e2 e3 hg h => by
      obtain ⟨_, _, _, idx⟩ := env
      cases e1; cases e2; cases e3
      exact hstep idx l zs tx inv hg h)
    l h0 txs hg

theorem applyTxs_zip_inv (cfg : Cfg) (cache : KV (String × String) Svc) (hgt : Nat) (G : Tx → Prop) (P : Led → Prop) (Q : Tx → Rcpt → Prop)
    (hstep : ∀ idx l tx inv, G tx → P l → P (applyTx { cfg := cfg, cache := cache, height := hgt, txIndex := idx } l tx inv).1)
    (hq : ∀ idx l tx inv, G tx → P l → Q tx (applyTx { cfg := cfg, cache := cache, height := hgt, txIndex := idx } l tx inv).2.rcpt)
    (l : Led) (hl : P l) (txs : List (Tx × Bool)) (hg : ∀ p ∈ txs, G p.1) :
    P (applyTxs cfg cache hgt l txs).led ∧ ∀ p ∈ (txs.map (·.1)).zip (applyTxs cfg cache hgt l txs).rcpts, Q p.1 p.2 :=
  applyTxs_zip_fold cfg cache hgt G (fun l zs => P l ∧ ∀ p ∈ zs, Q p.1 p.2)
    (fun idx l zs tx inv hg h => ⟨hstep idx l tx inv hg h.1, fun p hp => by
      rcases List.mem_append.mp hp with hp | hp
      · exact h.2 p hp
      · cases List.mem_singleton.mp hp; exact hq idx l tx inv hg h.1⟩)
    l ⟨hl, fun _ hp => nomatch hp⟩ txs hg

/-- something that happens to the ledger during a block happened at one of its transactions -/
theorem applyTxs_zip_exists (cfg : Cfg) (cache : KV (String × String) Svc) (hgt : Nat) (G : Tx → Prop) (P0 P1 : Led → Prop) (Rel : Tx → Rcpt → Prop)
    (h0 : ∀ idx l tx inv, G tx → P0 l →
      P0 (applyTx { cfg := cfg, cache := cache, height := hgt, txIndex := idx } l tx inv).1 ∨
      (P1 (applyTx { cfg := cfg, cache := cache, height := hgt, txIndex := idx } l tx inv).1 ∧
        Rel tx (applyTx { cfg := cfg, cache := cache, height := hgt, txIndex := idx } l tx inv).2.rcpt))
    (h1 : ∀ idx l tx inv, G tx → P1 l → P1 (applyTx { cfg := cfg, cache := cache, height := hgt, txIndex := idx } l tx inv).1)
    (l : Led) (hl : P0 l) (txs : List (Tx × Bool)) (hg : ∀ p ∈ txs, G p.1) :
    P0 (applyTxs cfg cache hgt l txs).led ∨
    (P1 (applyTxs cfg cache hgt l txs).led ∧ ∃ p ∈ (txs.map (·.1)).zip (applyTxs cfg cache hgt l txs).rcpts, Rel p.1 p.2) :=
  applyTxs_zip_fold cfg cache hgt G (fun l zs => P0 l ∨ (P1 l ∧ ∃ p ∈ zs, Rel p.1 p.2))
    (fun idx l zs tx inv hg h => by
      rcases h with h | ⟨h, p, hp, hr⟩
      · exact (h0 idx l tx inv hg h).imp_right fun ⟨h', hr⟩ => ⟨h', _, List.mem_append_right _ (List.mem_singleton.mpr rfl), hr⟩
      · exact .inr ⟨h1 idx l tx inv hg h, p, List.mem_append_left _ hp, hr⟩)
    l (.inl hl) txs hg

def reqFor (t : TxId) : Tx → Bool
  | .ibtp _ i _ => i.typ.isRequest && decide (i.frm = some t.frm) && decide (i.to = some t.to) && decide (i.index = t.index)
  | _ => false

def reqOk (t : TxId) (p : Tx × Rcpt) : Bool := reqFor t p.1 && p.2.ok

end Bxh.Exec

namespace Bxh.Props.C06
open Bxh Bxh.Exec

/-- a receipt transaction for `t`: the counterpart of `reqFor`, named by statements of C06 and C04 -/
def RespFor (t : TxId) (tx : Tx) : Prop :=
  ∃ s i pk, tx = .ibtp s i pk ∧ i.typ.isResponse = true ∧ i.frm = some t.frm ∧ i.to = some t.to ∧ i.index = t.index

end Bxh.Props.C06

namespace Bxh.Exec
open Bxh

theorem reqFor_of {t : TxId} {s : String} {i : Ibtp} {p : ProofKind} (hreq : i.typ.isRequest = true) (hfr : i.frm = some t.frm)
    (hto : i.to = some t.to) (hix : i.index = t.index) : reqFor t (.ibtp s i p) = true := by
  simp [reqFor, hreq, hfr, hto, hix]

theorem reqFor_elim {t : TxId} {tx : Tx} (h : reqFor t tx = true) :
    ∃ s i p, tx = .ibtp s i p ∧ i.typ.isRequest = true ∧ i.frm = some t.frm ∧ i.to = some t.to ∧ i.index = t.index := by
  cases tx with
  | ibtp s i p =>
    simp only [reqFor, Bool.and_eq_true, decide_eq_true_eq] at h
    exact ⟨s, i, p, rfl, h.1.1.1, h.1.1.2, h.1.2, h.2⟩
  | xfer _ _ _ => cases h
  | bvm _ _ _ _ => cases h

theorem reqOk_false {t : TxId} {tx : Tx} {rc : Rcpt}
    (h : ∀ s i p, tx = .ibtp s i p → i.typ.isRequest = true ∧ i.frm = some t.frm ∧ i.to = some t.to ∧ i.index = t.index → rc.ok = false) :
    reqOk t (tx, rc) = false := by
  cases hrf : reqFor t tx with
  | false => rw [reqOk, hrf]; rfl
  | true =>
    obtain ⟨s, i, p, htx, hq⟩ := reqFor_elim hrf
    rw [reqOk, hrf, h s i p htx hq]; rfl

theorem timeoutAct_add_deadline {cfg : Cfg} {l : Led} {h : Nat} {tx : Tx} {rc : Rcpt} {d : Nat} {id : TxId}
    (e : timeoutAct cfg l h tx rc = .add d id) :
    ∃ s i p, tx = .ibtp s i p ∧ 0 < i.timeout ∧ i.timeout.toNat < maxU64 - h ∧ d = h + i.timeout.toNat := by
  obtain ⟨s, i, p, htx, _, _, _, _, _, _, _, _, h1, h2, h3⟩ := timeoutAct_eq_add.mp e
  exact ⟨s, i, p, htx, h1, h2, h3⟩

/-- the record's deadline is the height `timeoutAct` lists the id under -/
theorem recordHeight_of_add (h : Nat) (T : Int) (h1 : 0 < T) (h2 : T.toNat < maxU64 - h) :
    recordHeight h (toU64 T) = h + T.toNat := by
  have hT : (T.toNat : Int) = T := Int.toNat_of_nonneg (Int.le_of_lt h1)
  have hlt : T.toNat < 2 ^ 64 := Nat.lt_of_lt_of_le h2 (Nat.le_trans (Nat.sub_le _ _) (Nat.sub_le _ _))
  -- `T` fits 64 bits: the conversion keeps it
  have e : toU64 T = T.toNat := by
    rw [toU64, Int.emod_eq_of_lt (Int.le_of_lt h1) (by rw [← hT]; exact_mod_cast hlt)]
  rw [e, recordHeight, if_neg]
  exact fun x => x.elim (fun z => absurd (Int.lt_toNat.mpr h1) (by rw [z]; exact Nat.lt_irrefl 0)) (fun z => absurd h2 (Nat.not_lt.mpr z))

theorem handleIBTP_new_record {env : Env} {l : Led} {i : Ibtp} {ck : Checked} {r : Led × String}
    (hck : checkIBTP env l i = .ok ck) (h : handleIBTP env l i = .ok r) (hreq : i.typ.isRequest = true)
    (hloc : ck.src.bxh = ck.dst.bxh) (hg : i.group = none) :
    r.1.getS (.txRec { frm := ck.src, to := ck.dst, index := i.index }) =
      some (.trec { height := recordHeight env.height (toU64 i.timeout), status := if ck.targetErr then .beginFailure else .begin }) := by
  obtain ⟨ck', l1, c, hck', hb, p, hp, _, hl⟩ := handleIBTP_ok h
  cases hck.symm.trans hck'
  -- what follows `beginTransaction` writes no record
  rw [(handleIBTP_after hp hl).getS]
  rcases hb with ⟨_, hb⟩ | ⟨hq, _⟩
  · rcases beginTransaction_ok hb with ⟨hne, _⟩ | ⟨_, _, rfl, _⟩ | ⟨_, g, hg', _⟩
    · exact absurd hloc hne
    · exact (Led.getS_addS ..).trans (if_pos rfl)
    · rw [hg] at hg'; cases hg'
  · rw [hreq] at hq; cases hq

end Bxh.Exec
