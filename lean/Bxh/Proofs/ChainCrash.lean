import Bxh.Proofs.ChainLinked
import Bxh.Proofs.LedgerRollback
/-!
# A crash from which the node recovers leaves the chain store of before or of after the block

`crashed before after m` is the durable state a crash leaves when the commit of one block was interrupted (`m`: which batches /
how many blockfile tables reached the disk); `reopen` = `NewBlockFile` (truncate the five tables to the shortest) + `ledger.New`
(read the chain meta, open the state store, roll back to the chain height).  For the two classes of masks from which start-up
succeeds (`C11_recover_iff`: everything of the chain side durable, or nothing of it complete) the chain side of the reopened node
is exactly the one from before resp. after the block, hence `Linked`: every block below the head is still there, hash-linked and
indexed.  Last, the state side of an idle block (`stateCommit_idle`).
-/
namespace Bxh.Chain

/-- the stored chain meta is the cached one (what `ledger.New` reads back) -/
def MetaOk (n : Node) : Prop := n.idx.metaDB.getD (0, "zero", 0) = n.cmeta

/-- all five blockfile tables hold as many blocks as the chain is high -/
def FiveEven (n : Node) : Prop :=
  n.tbl.hashes.length = n.cmeta.1 ∧ n.tbl.bodies.length = n.cmeta.1 ∧ n.tbl.txs.length = n.cmeta.1 ∧
  n.tbl.rcpts.length = n.cmeta.1 ∧ n.tbl.inter.length = n.cmeta.1

theorem applyBlk_facts (n : Node) (b : Blk) (hb : b.height = n.cmeta.1 + 1) (h5 : FiveEven n) :
    FiveEven (applyBlk n b) ∧ MetaOk (applyBlk n b) := by
  obtain ⟨a1, a2, a3, a4, a5⟩ := h5
  refine ⟨?_, ?_⟩
  · simp [FiveEven, applyBlk, Tables.append, a1, a2, a3, a4, a5, hb]
  · simp [MetaOk, applyBlk, indexBatch]

theorem take_of_prefix {α : Type} {l₀ l : List α} {H : Nat} (p : l₀ <+: l) (h : l₀.length = H) : l.take H = l₀ := by
  rw [← h]; exact (List.prefix_iff_eq_take.mp p).symm

theorem Tables.minLen_eq {t : Tables} {H : Nat} (h1 : H ≤ t.hashes.length) (h2 : H ≤ t.bodies.length) (h3 : H ≤ t.txs.length)
    (h4 : H ≤ t.rcpts.length) (h5 : t.inter.length = H) : t.minLen = H := by
  unfold Tables.minLen
  rw [h5, Nat.min_eq_right h4, Nat.min_eq_right h3, Nat.min_eq_right h2, Nat.min_eq_right h1]

/-- `NewBlockFile` repairs a half-appended block away: each table holds the one of `n` and perhaps more, the last of them no more -/
theorem repair_of_prefix {t : Tables} {n : Node} (h5 : FiveEven n)
    (p1 : n.tbl.hashes <+: t.hashes) (p2 : n.tbl.bodies <+: t.bodies) (p3 : n.tbl.txs <+: t.txs) (p4 : n.tbl.rcpts <+: t.rcpts)
    (p5 : t.inter = n.tbl.inter) : t.minLen = n.cmeta.1 ∧ t.truncate t.minLen = n.tbl := by
  obtain ⟨a1, a2, a3, a4, a5⟩ := h5
  have hmin : t.minLen = n.cmeta.1 :=
    Tables.minLen_eq (a1 ▸ p1.length_le) (a2 ▸ p2.length_le) (a3 ▸ p3.length_le) (a4 ▸ p4.length_le) (p5 ▸ a5)
  refine ⟨hmin, ?_⟩
  rw [hmin]
  unfold Tables.truncate
  rw [take_of_prefix p1 a1, take_of_prefix p2 a2, take_of_prefix p3 a3, take_of_prefix p4 a4,
    take_of_prefix (p5 ▸ List.prefix_refl _) a5]

theorem reopen_as {n x n2 : Node} (hL : Linked x) (hM : MetaOk x) (hi : n.idx = x.idx)
    (ht : n.tbl.minLen = x.cmeta.1 ∧ n.tbl.truncate n.tbl.minLen = x.tbl) (hr : reopen n = .ok n2) :
    n2.idx = x.idx ∧ n2.tbl = x.tbl ∧ n2.blocks = x.blocks ∧ n2.cmeta = x.cmeta ∧ Linked n2 := by
  obtain ⟨r1, r2, r3, r4⟩ := reopen_ok hr
  have g1 : n2.idx = x.idx := r1.trans hi
  have g2 : n2.tbl = x.tbl := r2.trans ht.2
  have g3 : n2.blocks = x.blocks := by rw [r3, ht.1, hL.to.blocks]
  have g4 : n2.cmeta = x.cmeta := by rw [r4, hi]; exact hM
  exact ⟨g1, g2, g3, g4, hL.congr g1 g2 g3 g4⟩

theorem prefix_ite_snoc {α : Type} (l : List α) (b : α) (c : Prop) [Decidable c] : l <+: if c then l ++ [b] else l := by
  split
  · exact List.prefix_append _ _
  · exact List.prefix_refl _

theorem crashed_idx (before after : Node) (m : Mask) : (crashed before after m).idx = if m.c then after.idx else before.idx := rfl

theorem crashed_tbl (before after : Node) (m : Mask) : (crashed before after m).tbl =
    { hashes := if 0 < m.b then after.tbl.hashes else before.tbl.hashes,
      bodies := if 1 < m.b then after.tbl.bodies else before.tbl.bodies,
      txs := if 2 < m.b then after.tbl.txs else before.tbl.txs,
      rcpts := if 3 < m.b then after.tbl.rcpts else before.tbl.rcpts,
      inter := if 4 < m.b then after.tbl.inter else before.tbl.inter } := rfl

/-- **nothing of the chain side complete**: the chain-index batch missing and at most four of the five tables appended -/
theorem reopen_crashed_before (before after : Node) (b : Blk) (m : Mask) (n2 : Node)
    (hL : Linked before) (hM : MetaOk before) (h5 : FiveEven before)
    (ha : after.tbl = before.tbl.append b) (hc : m.c = false) (hb : m.b < 5)
    (hr : reopen (crashed before after m) = .ok n2) :
    n2.idx = before.idx ∧ n2.tbl = before.tbl ∧ n2.blocks = before.blocks ∧ n2.cmeta = before.cmeta ∧ Linked n2 := by
  refine reopen_as hL hM (by rw [crashed_idx, hc]; rfl) ?_ hr
  -- each table is the one from before the block, with or without the new block; the last one is without it
  rw [crashed_tbl, ha]
  exact repair_of_prefix h5 (prefix_ite_snoc _ _ _) (prefix_ite_snoc _ _ _) (prefix_ite_snoc _ _ _) (prefix_ite_snoc _ _ _)
    (if_neg (by omega))

/-- **everything of the chain side durable**: the chain-index batch and all five tables -/
theorem reopen_crashed_after (before after : Node) (m : Mask) (n2 : Node)
    (hL : Linked after) (hM : MetaOk after) (h5 : FiveEven after)
    (hc : m.c = true) (hb : m.b = 5)
    (hr : reopen (crashed before after m) = .ok n2) :
    n2.idx = after.idx ∧ n2.tbl = after.tbl ∧ n2.blocks = after.blocks ∧ n2.cmeta = after.cmeta ∧ Linked n2 := by
  refine reopen_as hL hM (by rw [crashed_idx, hc]; rfl) ?_ hr
  rw [crashed_tbl, hb]
  exact repair_of_prefix h5 (List.prefix_refl _) (List.prefix_refl _) (List.prefix_refl _) (List.prefix_refl _) rfl

/-- **an idle block changes no account** (`hno`: a state ledger between two blocks) — what it adds is the (empty) journal of its
height, the durable copy of the state root the next block chains on from -/
theorem stateCommit_idle (l : Ledger.L) (h serial : Nat) (hh : 1 < h) (hno : l.accounts = []) :
    (stateCommit l h serial []).db.state = l.db.state ∧
    (Ledger.flush (fun _ => s!"r{h}-{serial}") (Ledger.finalise l)).2.accounts = [] := by
  have hfl : (Ledger.flush (fun _ => s!"r{h}-{serial}") (Ledger.finalise l)).2.accounts = [] := by
    unfold Ledger.flush Ledger.finalise
    simp only [hno, List.map_nil, List.filterMap_nil]
  refine ⟨?_, hfl⟩
  unfold stateCommit
  simp only [List.isEmpty_nil, hh, decide_true, Bool.and_self, if_true]
  cases hc : Ledger.commit (Ledger.flush (fun _ => s!"r{h}-{serial}") (Ledger.finalise l)).1 h
      (Ledger.flush (fun _ => s!"r{h}-{serial}") (Ledger.finalise l)).2 with
  | none => simp only [Option.getD_none]; rfl
  | some l' =>
    simp only [Option.getD_some]
    rw [(Ledger.commit_state_cache hc).1, hfl]
    rfl

end Bxh.Chain
