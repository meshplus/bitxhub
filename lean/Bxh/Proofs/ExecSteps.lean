import Bxh.Proofs.Journal
import Bxh.Proofs.ExecStepsS
import Bxh.Proofs.ExecStepsE
import Bxh.Proofs.GoRemove
/-!
# What the modelled contract functions write

`Writes ks l l'`: `l'` is reached from `l` by journaled storage writes to keys whose kind is in `ks` and by event posts.  No
balance is written, and a write to a `timeout-<d>` key leaves every one-to-one entry of the list, and its well-formedness, as
they are: the transaction manager adds and removes *group* ids only.
-/
namespace Bxh.Exec

inductive KeyKind | txRec | glob | timeout | child | ic | idxReq | idxRcpt | multi | svc
deriving DecidableEq

def Key.kind : Key → KeyKind
  | .txRec _ => .txRec | .glob _ => .glob | .timeout _ => .timeout | .child _ => .child | .ic _ => .ic
  | .idxReq _ => .idxReq | .idxRcpt _ => .idxRcpt | .multi _ => .multi | .svc _ _ => .svc

/-- the side condition of `StepsE.setT` -/
def ListKept (l : Led) : Key → Option Val → Prop
  | .timeout d, v => ∃ lst, v = some (.tlist lst) ∧ (∀ t, lst.count (some (TId.single t)) = listCount l d t) ∧
      (WFV (l.getS (.timeout d)) → WFL lst)
  | _, _ => True

inductive Writes (ks : List KeyKind) : Led → Led → Prop
  | refl (l : Led) : Writes ks l l
  | set {l l' : Led} (k : Key) (v : Option Val) (hk : ks.contains k.kind = true) (ht : ListKept l' k v) :
      Writes ks l l' → Writes ks l (l'.setS k v)
  | post {l l' : Led} (e : Ev) : Writes ks l l' → Writes ks l (l'.post e)

namespace Writes
variable {ks ks' : List KeyKind} {l l' l'' : Led}

theorem trans (h1 : Writes ks l l') (h2 : Writes ks l' l'') : Writes ks l l'' := by
  induction h2 with
  | refl => exact h1
  | set k v hk ht _ ih => exact .set k v hk ht ih
  | post e _ ih => exact .post e ih

/-! The side conditions on kinds are Boolean and closed once the key's constructor is known: `rfl` decides them where a
lemma is used. -/

theorem mono (h : Writes ks l l') (hs : ks.all ks'.contains = true := by rfl) : Writes ks' l l' := by
  induction h with
  | refl => exact .refl _
  | set k v hk ht _ ih => exact .set k v (List.all_eq_true.mp hs _ (List.contains_iff_mem.mp hk)) ht ih
  | post e _ ih => exact .post e ih

theorem setO (k : Key) (v : Option Val) (h : Writes ks l l') (hk : (ks.contains k.kind && k.kind != .timeout) = true := by rfl) :
    Writes ks l (l'.setS k v) := by
  rw [Bool.and_eq_true] at hk
  exact .set k v hk.1 (by cases k <;> first | trivial | cases hk.2) h

theorem addO (k : Key) (v : Val) (h : Writes ks l l') (hk : (ks.contains k.kind && k.kind != .timeout) = true := by rfl) :
    Writes ks l (l'.addS k v) := setO k (some v) h hk

theorem setIC (s : SvcId) (i : IC) (h : Writes ks l l') (hk : ks.contains .ic = true := by rfl) : Writes ks l (setIC l' s i) :=
  setO _ _ h (by rw [Bool.and_eq_true]; exact ⟨hk, rfl⟩)

theorem getS (h : Writes ks l l') {k : Key} (hk : ks.contains k.kind = false := by rfl) : l'.getS k = l.getS k := by
  induction h with
  | refl => rfl
  | set k' v hk' _ _ ih =>
    rw [Led.getS_setS, if_neg (fun e => by rw [e, hk] at hk'; cases hk'), ih]
  | post e _ ih => exact ih

theorem stepsE (h : Writes ks l l') : StepsE l l' := by
  induction h with
  | refl => exact .refl _
  | set k v _ ht _ ih =>
    cases k with
    | timeout d => obtain ⟨lst, rfl, hc, hw⟩ := ht; exact .setT d lst hc hw ih
    | _ => exact .setO _ _ nofun ih
  | post e _ ih => exact .post e ih

theorem stepsT (h : Writes ks l l') : StepsT l l' := h.stepsE.stepsT

theorem stepsS (h : Writes ks l l') : StepsS l l' := by
  induction h with
  | refl => exact .refl _
  | set k v _ _ _ ih => exact .setS k v ih
  | post e _ ih => exact .post e ih

theorem steps (h : Writes ks l l') : Steps l l' := by
  induction h with
  | refl => exact .refl _
  | set k v _ _ _ ih => exact .setS k v ih
  | post e _ ih => exact .post e ih

end Writes

theorem tmAddTimeout_eq (l : Led) (h : Nat) (id : TId) :
    tmAddTimeout l h id = l.setS (.timeout h) (some (.tlist (appendTo (curList (l.getS (.timeout h))) [some id]))) := by
  unfold tmAddTimeout curList appendTo
  cases l.getS (.timeout h) with
  | none => rfl
  | some v =>
    cases v with
    | tlist lst => dsimp only; split <;> rfl
    | _ => rfl

theorem tmAddTimeout_steps (l : Led) (h : Nat) (id : TId) : Steps l (tmAddTimeout l h id) := by
  rw [tmAddTimeout_eq]; exact .setS _ _ (.refl _)

theorem tmAddTimeout_writes (l : Led) (h : Nat) (g : GId) : Writes [.timeout] l (tmAddTimeout l h (.global g)) := by
  rw [tmAddTimeout_eq]
  refine .set _ _ rfl ⟨_, rfl, fun t => ?_, fun hw => wfl_appendTo ((wfv_iff _).mp hw) ?_⟩ (.refl _)
  · rw [count_appendTo, curList_count]; rfl
  · intro x hx; cases List.mem_singleton.mp hx; nofun

theorem tmRemoveTimeout_steps {l l' : Led} {h : Nat} {id : TId} (e : tmRemoveTimeout l h id = .ok l') : Steps l l' := by
  rcases tmRemoveTimeout_ok e with rfl | ⟨_, _, _, _, _, rfl⟩
  · exact .refl _
  · exact .setS _ _ (.refl _)

theorem tmRemoveTimeout_writes {l l' : Led} {h : Nat} {g : GId} (e : tmRemoveTimeout l h (.global g) = .ok l') :
    Writes [.timeout] l l' := by
  rcases tmRemoveTimeout_ok e with rfl | ⟨lst, r, hl, hne, hr, rfl⟩
  · exact .refl _
  · obtain ⟨hsub, hcnt⟩ := goRemove_spec hr
    refine .set _ _ rfl ⟨_, rfl, fun t => ?_, fun hw => normList_wf r fun x hx => ?_⟩ (.refl _)
    · rw [listCount_of hl, count_normList]; exact hcnt _ nofun
    · exact (hw lst hl).elim (fun e => absurd e hne) (· x (hsub.subset hx))

theorem tmBegin_writes (l : Led) (cur : Nat) (id : TxId) (t : Nat) (f : Bool) : Writes [.txRec] l (tmBegin l cur id t f).1 :=
  .addO _ _ (.refl l)

theorem tmBeginInter_writes {l : Led} {cur : Nat} {id : TxId} {t : Nat} {x : Ext} {f : Bool} {l' : Led} {c : StatusChange}
    (e : tmBeginInter l cur id t x f = .ok (l', c)) : Writes [.txRec] l l' := by
  rcases tmBeginInter_ok e with ⟨_, rfl, _⟩ | ⟨_, _, _, _, rfl, _⟩
  · exact .addO _ _ (.refl l)
  · exact .addO _ _ (.refl l)

theorem tmBeginMulti_writes {l : Led} {cur : Nat} {gid : GId} {id : TxId} {t : Nat} {f : Bool} {n : Nat} {l' : Led} {c : StatusChange}
    (e : tmBeginMulti l cur gid id t f n = .ok (l', c)) : Writes [.timeout, .glob, .child] l l' := by
  obtain ⟨l0, g', h0, rfl, _⟩ := tmBeginMulti_ok e
  refine .setO _ _ (.setO _ _ ?_)
  rcases h0 with rfl | rfl | ⟨h, h0⟩
  · exact .refl _
  · exact (tmAddTimeout_writes l _ gid).mono
  · exact (tmRemoveTimeout_writes h0).mono

theorem tmChangeMulti_writes {l : Led} {gid : GId} {g : Global} {id : TxId} {typ : Nat} {l' : Led} {g' : Global}
    (e : tmChangeMulti l gid g id typ = .ok (l', g')) : Writes [.timeout] l l' := by
  obtain ⟨_, rfl | h⟩ := tmChangeMulti_ok e
  · exact .refl _
  · exact tmRemoveTimeout_writes h

theorem tmReport_writes {l : Led} {id : TxId} {typ : Nat} {l' : Led} {c : StatusChange}
    (e : tmReport l id typ = .ok (l', c)) : Writes [.txRec, .timeout, .glob] l l' := by
  rcases tmReport_ok e with ⟨_, _, _, _, rfl, _⟩ | ⟨_, _, _, _, _, _, _, hcm, rfl, _⟩
  · exact .setO _ _ (.refl l)
  · exact .setO _ _ (tmChangeMulti_writes hcm).mono

def tmKinds : List KeyKind := [.txRec, .timeout, .glob, .child]

theorem beginTransaction_writes {env : Env} {l : Led} {i : Ibtp} {ck : Checked} {l' : Led} {c : StatusChange}
    (e : beginTransaction env l i ck = .ok (l', c)) : Writes tmKinds l l' := by
  rcases beginTransaction_ok e with ⟨_, h⟩ | ⟨_, _, rfl, _⟩ | ⟨_, _, _, h⟩
  · exact (tmBeginInter_writes h).mono
  · exact .addO _ _ (.refl l)
  · exact (tmBeginMulti_writes h).mono

theorem addToMultiNotify_writes (env : Env) (l : Led) (ids : List TxId) (b : Bool) :
    Writes [.multi] l (addToMultiNotify env l ids b) := by
  unfold addToMultiNotify
  split
  · exact .refl _
  · exact .setO _ _ (.refl l)

theorem notifySrcDst_writes (env : Env) (l : Led) (src dst : SvcId) (c : StatusChange) (b : Bool) :
    Writes [.multi] l (notifySrcDst env l src dst c b) := by
  obtain ⟨l1, l2, m, e, h1, h2, _⟩ := notifySrcDst_ok env l src dst c b
  rw [e]
  refine .post _ (Writes.trans (l' := l1) ?_ ?_)
  · rcases h1 with rfl | rfl
    · exact .refl _
    · exact addToMultiNotify_writes ..
  · rcases h2 with rfl | rfl
    · exact .refl _
    · exact addToMultiNotify_writes ..

theorem setDestIC_writes (l : Led) (f t : SvcId) (n : Nat) (ic : IC) : Writes [.ic] l (setDestIC l f t n ic) :=
  .setIC _ _ (.setIC _ _ (.refl l))

theorem processIBTP_writes (l : Led) (i : Ibtp) (ck : Checked) (c : StatusChange) :
    Writes [.ic, .idxReq, .idxRcpt] l (processIBTP l i ck c).1 := by
  unfold processIBTP
  simp only
  split
  · exact .setIC _ _ (.addO _ _ (.setIC _ _ (.refl l)))
  · simp only
    refine .setO _ _ ?_
    split
    · split
      · exact (foldl_inv (P := Writes [.ic] l) (fun l' _ h => h.trans (setDestIC_writes l' ..)) _ (.refl l)).mono
      · exact (setDestIC_writes ..).mono
    · exact .refl _

theorem handleIBTP_after {env : Env} {l1 : Led} {i : Ibtp} {ck : Checked} {c : StatusChange} {p : Led × String} {l' : Led}
    (hp : processIBTP (notifySrcDst env l1 ck.src ck.dst c ck.isBatch) i ck c = p)
    (hl : l' = p.1 ∨ l' = (p.1.post .audit).post .audit) : Writes [.multi, .ic, .idxReq, .idxRcpt] l1 l' := by
  have h : Writes [.multi, .ic, .idxReq, .idxRcpt] l1 p.1 :=
    hp ▸ (notifySrcDst_writes ..).mono.trans (processIBTP_writes ..).mono
  rcases hl with rfl | rfl
  · exact h
  · exact (h.post _).post _

theorem handleIBTP_writes {env : Env} {l : Led} {i : Ibtp} {r : Led × String} (e : handleIBTP env l i = .ok r) :
    Writes (tmKinds ++ [.multi, .ic, .idxReq, .idxRcpt]) l r.1 := by
  obtain ⟨ck, l1, c, _, hb, p, hp, _, hl⟩ := handleIBTP_ok e
  refine Writes.trans ?_ (handleIBTP_after hp hl).mono
  rcases hb with ⟨_, hb⟩ | ⟨_, _, hb⟩
  · exact (beginTransaction_writes hb).mono
  · exact (tmReport_writes hb).mono

theorem handleIBTP_svc_frame {env : Env} {l : Led} {i : Ibtp} {r : Led × String}
    (h : handleIBTP env l i = .ok r) (c sid : String) : r.1.getS (.svc c sid) = l.getS (.svc c sid) :=
  (handleIBTP_writes h).getS

theorem applyBvm_writes {env : Env} {l : Led} {c m : String} {args : List Arg} {l' : Led} {ret : String}
    (e : applyBvm env l c m args = .ok (l', ret)) : Writes [.ic] l l' := by
  rcases applyBvm_ok e with rfl | ⟨_, _, id, rfl⟩
  · exact .refl _
  · exact .setO _ _ (.refl l)

theorem handleIBTP_stepsS {env : Env} {l : Led} {i : Ibtp} {r : Led × String}
    (e : handleIBTP env l i = .ok r) : StepsS l r.1 := (handleIBTP_writes e).stepsS

theorem applyBvm_stepsS {env : Env} {l : Led} {c m : String} {args : List Arg} {r : Led × String}
    (e : applyBvm env l c m args = .ok r) : StepsS l r.1 := (applyBvm_writes e).stepsS

theorem handleIBTP_stepsT {env : Env} {l : Led} {i : Ibtp} {r : Led × String}
    (e : handleIBTP env l i = .ok r) : StepsT l r.1 := (handleIBTP_writes e).stepsT

theorem applyBvm_stepsT {env : Env} {l : Led} {c m : String} {args : List Arg} {r : Led × String}
    (e : applyBvm env l c m args = .ok r) : StepsT l r.1 := (applyBvm_writes e).stepsT

end Bxh.Exec
