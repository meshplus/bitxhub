import Bxh.Proofs.ChainOps
/-!
# `RollbackBlockChain` removes every by-height entry above the target
-/
namespace Bxh.Chain

theorem get_erase_below {β : Type} {m m' : KV Nat β} {t cur j : Nat} (hc : t ≤ cur)
    (h : KV.get m' j = if t < j ∧ j ≤ cur then none else KV.get (KV.erase m (cur + 1)) j) :
    KV.get m' j = if t < j ∧ j ≤ cur + 1 then none else KV.get m j := by
  rw [h, KV.get_erase]
  by_cases h1 : t < j ∧ j ≤ cur
  · rw [if_pos h1, if_pos ⟨h1.1, Nat.le_succ_of_le h1.2⟩]
  · rw [if_neg h1]
    by_cases hj : cur + 1 = j
    · rw [if_pos hj, if_pos (hj ▸ ⟨Nat.lt_succ_of_le hc, Nat.le_refl _⟩)]
    · rw [if_neg hj, if_neg (by omega)]

theorem loop_spec (t : Nat) : ∀ (fuel cur cnt : Nat) (n n' : Node) (cnt' : Nat),
    chainRollbackLoop n t fuel cur cnt = some (n', cnt') → fuel = cur - t → t ≤ cur → n.blocks = cur →
    (∀ j, KV.get n'.idx.heightIdx j = if t < j ∧ j ≤ cur then none else KV.get n.idx.heightIdx j) ∧
    (∀ j, KV.get n'.idx.txSet j = if t < j ∧ j ≤ cur then none else KV.get n.idx.txSet j) ∧
    (t < cur ∨ n.tbl.bodies.length ≤ cur → n'.tbl.bodies.length ≤ t) := by
  intro fuel
  induction fuel with
  | zero =>
    intro cur cnt n n' cnt' h hf ht hb
    obtain rfl : cur = t := by omega
    cases h
    have no : ∀ j, ¬ (cur < j ∧ j ≤ cur) := fun j hj => Nat.lt_irrefl _ (Nat.lt_of_lt_of_le hj.1 hj.2)
    exact ⟨fun j => (if_neg (no j)).symm, fun j => (if_neg (no j)).symm, fun h => h.resolve_left (Nat.lt_irrefl _)⟩
  | succ fuel ih =>
    intro cur cnt n n' cnt' h hf ht hb
    obtain rfl : cur = t + fuel + 1 := by omega
    have hle : t ≤ t + fuel := Nat.le_add_right ..
    obtain ⟨b, im, _, _, h⟩ := (loop_round fuel cnt _ (Nat.lt_succ_of_le hle) hb).mp h
    obtain ⟨i1, i2, i4⟩ := ih (t + fuel) _ _ n' cnt' h (Nat.add_sub_cancel_left ..).symm hle rfl
    -- whatever the tables were, this round cuts them to `t + fuel`
    exact ⟨fun j => get_erase_below hle (i1 j), fun j => get_erase_below hle (i2 j), fun _ => i4 (Or.inr (List.length_take_le ..))⟩

end Bxh.Chain
