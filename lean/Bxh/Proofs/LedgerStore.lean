import Bxh.Model.Ledger
import Bxh.Prelude.Fold
/-!
# What `commitAcct` and `revertEntry` write, key by key

Both write, under one address, an account record, a code entry and a list of storage bindings — or leave some of them alone.  That is
`DB.write`; `commitAcct_eq` and `revertEntry_eq` put the two model functions into this form, and everything else is said about
`DB.write` once: what it holds under each key (the last write under a key counts) and that it acts under its own address only, so that
a fold of such writes over the accounts of a block is read off by `KeyLocal`.  `AccountCache.add` is treated the same way (`cacheAdd_look`).
-/
namespace Bxh.Ledger
open Bxh

def putStates (a : Addr) (kvs : KV String Bytes) (st : KV (Addr × String) String) : KV (Addr × String) String :=
  kvs.foldl (fun st p => KV.put st (a, p.1) p.2) st

theorem get_putStates (a b : Addr) (k : String) (kvs : KV String Bytes) (st : KV (Addr × String) String) :
    KV.get (putStates a kvs st) (b, k) = if a = b then (KV.last kvs k).getD (KV.get st (b, k)) else KV.get st (b, k) := by
  unfold putStates
  rw [KV.get_foldl_put (fun p : String × Bytes => (a, p.1)) (fun p => p.2)]
  by_cases hb : a = b
  · rw [if_pos hb, ← hb, KV.last, show (fun p : String × Bytes => decide ((a, p.1) = (a, k))) = (fun p => decide (p.1 = k)) from
      funext fun p => by simp]
    cases kvs.reverse.find? (fun p => decide (p.1 = k)) <;> rfl
  · rw [if_neg hb, List.find?_eq_none.mpr (fun p _ => by simp [hb])]

theorem get_putStates_other {a b : Addr} {k : String} {kvs : KV String Bytes} {st : KV (Addr × String) String}
    (h : a ≠ b ∨ ∀ p ∈ kvs, p.1 ≠ k) : KV.get (putStates a kvs st) (b, k) = KV.get st (b, k) := by
  rw [get_putStates]
  split
  · rename_i hb; rw [KV.last_eq_none (h.resolve_left (fun hne => hne hb))]; rfl
  · rfl

theorem putStates_nodup (a : Addr) (kvs : KV String Bytes) (st : KV (Addr × String) String) (h : (st.map (·.1)).Nodup) :
    ((putStates a kvs st).map (·.1)).Nodup :=
  foldl_inv (P := fun m : KV (Addr × String) String => (m.map (·.1)).Nodup) (fun _ p hs => KV.put_nodup _ (a, p.1) p.2 hs) kvs h

def DB.write (db : DB) (a : Addr) (acct : Option (Option Inner)) (code : Option Bytes) (kvs : KV String Bytes) : DB :=
  { db with acct := KV.putIf db.acct a acct, code := KV.putIf db.code a code, state := putStates a kvs db.state }

theorem DB.foldl_state {ι : Type} (g : KV (Addr × String) String → ι → KV (Addr × String) String) (step : DB → ι → DB)
    (hstep : ∀ db x, step db x = { db with state := g db.state x }) (xs : List ι) (db : DB) :
    xs.foldl step db = { db with state := xs.foldl g db.state } := by
  induction xs generalizing db with
  | nil => rfl
  | cons x xs ih => rw [List.foldl_cons, hstep, ih]; rfl

theorem revertEntry_eq (db : DB) (e : JEntry) :
    revertEntry db e =
      db.write e.addr (if e.accChanged then some e.prevAcc else none) (if e.codeChanged then some e.prevCode else none) e.prevStates := by
  unfold revertEntry
  simp only []
  rw [DB.foldl_state (fun st p => KV.put st (e.addr, p.1) p.2) _ (fun db p => by cases p.2 <;> rfl)]
  -- name the database after the account step; its `match` is the model function's own and cannot be written out here, so the
  -- term is picked by its outer `if`
  generalize hD : (if e.accChanged = true then _ else db : DB) = D
  have h1 : D = { db with acct := KV.putIf db.acct e.addr (if e.accChanged then some e.prevAcc else none) } := by
    rw [← hD]; cases e.accChanged <;> cases e.prevAcc <;> rfl
  rw [h1]
  cases e.codeChanged <;> cases e.prevCode <;> rfl

/-- the "changed" test of `commitAcct` / `changedKeys` for one dirty entry -/
def chg (origin : KV String Bytes) (p : String × Bytes) : Bool := !beq ((KV.get origin p.1).getD none) p.2

theorem changedKeys_eq (acc : Acct) : changedKeys acc = acc.dirtyState.filter (chg acc.originState) := rfl

/-- `commitAcct` writes a code entry -/
def codeWritten (acc : Acct) : Bool :=
  !beq acc.originCode acc.dirtyCode &&
    (acc.dirtyCode.isSome || acc.dirtyAcc.any (fun d => !beq (acc.originAcc.bind (·.codeHash)) d.codeHash && beq d.codeHash none))

theorem commitAcct_eq (db : DB) (a : Addr) (acc : Acct) :
    commitAcct db a acc =
      db.write a (if innerChanged acc.originAcc acc.dirtyAcc then some acc.dirtyAcc else none)
        (if codeWritten acc then some acc.dirtyCode else none) (changedKeys acc) := by
  unfold commitAcct
  rw [DB.foldl_state (fun st p => if chg acc.originState p then KV.put st (a, p.1) p.2 else st) _ (fun db p => by
    unfold chg
    split
    · cases p.2 <;> rfl
    · rfl)]
  unfold DB.write
  rw [changedKeys_eq, putStates, List.foldl_filter]
  -- the databases after the account step and after the code step, picked as in `revertEntry_eq`
  generalize hD1 : (if innerChanged acc.originAcc acc.dirtyAcc = true then _ else db : DB) = D1
  generalize hD2 : (if (!beq acc.originCode acc.dirtyCode) = true then _ else D1 : DB) = D2
  have h1 : D1 = { db with acct := KV.putIf db.acct a (if innerChanged acc.originAcc acc.dirtyAcc then some acc.dirtyAcc else none) } := by
    rw [← hD1]
    cases acc.dirtyAcc with
    | none => rfl
    | some d => generalize innerChanged acc.originAcc (some d) = b; cases b <;> rfl
  have h2 : D2 = { D1 with code := KV.putIf D1.code a (if codeWritten acc then some acc.dirtyCode else none) } := by
    rw [← hD2]
    unfold codeWritten
    generalize (!beq acc.originCode acc.dirtyCode) = b1
    cases b1
    · rfl
    · cases acc.dirtyCode with
      | some c => rfl
      | none =>
        cases acc.dirtyAcc with
        | none => rfl
        | some d =>
          have key : ∀ b : Bool, (if b = true then { D1 with code := KV.erase D1.code a } else D1) =
              { D1 with code := KV.putIf D1.code a (if (true && (false || b)) = true then some none else none) } := by
            intro b; cases b <;> rfl
          exact key _
  rw [h2, h1]

/-- the two databases agree on everything that belongs to address `b`; under a storage key, on the bytes: a key that is missing and a
key with an empty value are the same value, as for every read path of the ledger -/
def SameAt (b : Addr) (x y : DB) : Prop :=
  KV.get x.acct b = KV.get y.acct b ∧ KV.get x.code b = KV.get y.code b ∧
  ∀ k, (KV.get x.state (b, k)).getD "" = (KV.get y.state (b, k)).getD ""

theorem SameAt.refl (b : Addr) (x : DB) : SameAt b x x := ⟨rfl, rfl, fun _ => rfl⟩
theorem SameAt.trans {b : Addr} {x y z : DB} (h1 : SameAt b x y) (h2 : SameAt b y z) : SameAt b x z :=
  ⟨h1.1.trans h2.1, h1.2.1.trans h2.2.1, fun k => (h1.2.2 k).trans (h2.2.2 k)⟩
theorem SameAt.symm {b : Addr} {x y : DB} (h : SameAt b x y) : SameAt b y x :=
  ⟨h.1.symm, h.2.1.symm, fun k => (h.2.2 k).symm⟩

theorem DB.write_other (db : DB) {a b : Addr} {w : Option (Option Inner)} {c : Option Bytes} {kvs : KV String Bytes} (hne : a ≠ b) :
    SameAt b (db.write a w c kvs) db :=
  ⟨by rw [DB.write, KV.get_putIf, if_neg hne], by rw [DB.write, KV.get_putIf, if_neg hne],
    fun k => by rw [DB.write, get_putStates_other (Or.inl hne)]⟩

/-- the origin fields of the account object mirror the database (what `GetAccount` / `GetState` / `Code` loaded) -/
def Coh (db : DB) (a : Addr) (acc : Acct) : Prop :=
  acc.originAcc = KV.get db.acct a ∧
  (∀ p ∈ acc.dirtyState, chg acc.originState p = true →
    ((KV.get acc.originState p.1).getD none).getD "" = (KV.get db.state (a, p.1)).getD "") ∧
  acc.originCode = KV.get db.code a

/-- the journal entry `getJournalIfModified` builds for an account object -/
def entryOf (a : Addr) (acc : Acct) : JEntry :=
  { addr := a, prevAcc := acc.originAcc, accChanged := innerChanged acc.originAcc acc.dirtyAcc,
    prevStates := (changedKeys acc).map (fun p => (p.1, (KV.get acc.originState p.1).getD none)),
    prevCode := acc.originCode, codeChanged := !beq acc.originCode acc.dirtyCode }

/-- the entry writes the origin record where the commit wrote a record, the origin code where it may have written code, and the origin
values under exactly the keys it wrote -/
theorem revert_commit_at (D D2 : DB) (a : Addr) (acc : Acct) (hcoh : Coh D a acc)
    (hs : SameAt a D2 (commitAcct D a acc)) : SameAt a (revertEntry D2 (entryOf a acc)) D := by
  obtain ⟨h1, h2, h3⟩ := hcoh
  rw [commitAcct_eq] at hs
  rw [revertEntry_eq]
  refine ⟨?_, ?_, fun k => ?_⟩
  · show KV.get (KV.putIf D2.acct a (if innerChanged acc.originAcc acc.dirtyAcc then some acc.originAcc else none)) a = _
    rw [KV.get_putIf, if_pos rfl]
    by_cases hc : innerChanged acc.originAcc acc.dirtyAcc = true
    · rw [if_pos hc]; exact h1
    · rw [if_neg hc, hs.1, DB.write, KV.get_putIf, if_pos rfl, if_neg hc]; rfl
  · show KV.get (KV.putIf D2.code a (if (!beq acc.originCode acc.dirtyCode) then some acc.originCode else none)) a = _
    rw [KV.get_putIf, if_pos rfl]
    by_cases hc : (!beq acc.originCode acc.dirtyCode) = true
    · rw [if_pos hc]; exact h3
    · rw [if_neg hc, hs.2.1, DB.write, KV.get_putIf, if_pos rfl, codeWritten, Bool.eq_false_iff.mpr hc]; rfl
  · show (KV.get (putStates a ((changedKeys acc).map (fun p => (p.1, (KV.get acc.originState p.1).getD none))) D2.state) (a, k)).getD "" = _
    by_cases hin : ∃ p ∈ changedKeys acc, p.1 = k
    · obtain ⟨p, hp, rfl⟩ := hin
      rw [get_putStates, if_pos rfl, KV.last_eq_some ⟨_, List.mem_map_of_mem hp, rfl⟩
        (fun q hq e => by obtain ⟨r, _, rfl⟩ := List.mem_map.mp hq; exact congrArg (fun k => (KV.get acc.originState k).getD none) e)]
      rw [changedKeys_eq] at hp
      exact h2 p (List.mem_filter.mp hp).1 (List.mem_filter.mp hp).2
    · have hno : ∀ p ∈ changedKeys acc, p.1 ≠ k := fun p hp e => hin ⟨p, hp, e⟩
      rw [get_putStates_other (Or.inr (fun q hq => by obtain ⟨r, hr, rfl⟩ := List.mem_map.mp hq; exact hno r hr)),
        hs.2.2 k, DB.write, get_putStates_other (Or.inr hno)]

abbrev Item := Addr × Acct

def commits (items : List Item) (db : DB) : DB := items.foldl (fun db p => commitAcct db p.1 p.2) db
def reverts (items : List Item) (db : DB) : DB := (items.map (fun p => entryOf p.1 p.2)).foldl revertEntry db

theorem commits_append (xs ys : List Item) (db : DB) : commits (xs ++ ys) db = commits ys (commits xs db) :=
  List.foldl_append

theorem reverts_eq (items : List Item) (db : DB) : reverts items db = items.foldl (fun db p => revertEntry db (entryOf p.1 p.2)) db :=
  List.foldl_map

theorem commits_local : KeyLocal (fun p : Item => p.1) (fun db p => commitAcct db p.1 p.2) SameAt :=
  ⟨SameAt.refl, SameAt.trans, fun db p b h => by rw [commitAcct_eq]; exact DB.write_other db h⟩

theorem reverts_local : KeyLocal (fun p : Item => p.1) (fun db p => revertEntry db (entryOf p.1 p.2)) SameAt :=
  ⟨SameAt.refl, SameAt.trans, fun db p b h => by rw [revertEntry_eq]; exact DB.write_other db h⟩

theorem commits_frame (items : List Item) (db : DB) (b : Addr) (h : ∀ p ∈ items, p.1 ≠ b) : SameAt b (commits items db) db :=
  commits_local.foldl_other b items db h

theorem reverts_frame (items : List Item) (db : DB) (b : Addr) (h : ∀ p ∈ items, p.1 ≠ b) : SameAt b (reverts items db) db := by
  rw [reverts_eq]; exact reverts_local.foldl_other b items db h

theorem reverts_commits (items : List Item) (db D2 : DB) (hnd : (items.map (·.1)).Nodup)
    (hcoh : ∀ p ∈ items, Coh db p.1 p.2) (hsame : ∀ b, SameAt b D2 (commits items db)) (b : Addr) :
    SameAt b (reverts items D2) db := by
  by_cases hb : ∃ p ∈ items, p.1 = b
  · -- under the address of `p` the two folds are the commit and the revert of `p` alone, on databases that agree there with `db`, `D2`
    obtain ⟨p, hp, rfl⟩ := hb
    obtain ⟨D, hD, hc⟩ := commits_local.foldl_at items db hnd hp
    obtain ⟨D2', hD2, hr⟩ := reverts_local.foldl_at items D2 hnd hp
    obtain ⟨c1, c2, c3⟩ := hcoh p hp
    rw [reverts_eq]
    refine (hr.trans (revert_commit_at D D2' p.1 p.2 ?_ (hD2.trans ((hsame p.1).trans hc)))).trans hD
    exact ⟨c1.trans hD.1.symm, fun q hq hch => (c2 q hq hch).trans (hD.2.2 q.1).symm, c3.trans hD.2.1.symm⟩
  · have hno : ∀ p ∈ items, p.1 ≠ b := fun p hp e => hb ⟨p, hp, e⟩
    exact (reverts_frame items _ b hno).trans ((hsame b).trans (commits_frame items db b hno))

theorem commits_state_at (items : List Item) (db : DB) (hnd : (items.map (·.1)).Nodup) {a : Addr} {acc : Acct} (hmem : (a, acc) ∈ items)
    (k : String) :
    (KV.get (commits items db).state (a, k)).getD "" = ((KV.last (changedKeys acc) k).getD (KV.get db.state (a, k))).getD "" := by
  obtain ⟨D, hD, hc⟩ : ∃ D, SameAt a D db ∧ SameAt a (commits items db) (commitAcct D a acc) := commits_local.foldl_at items db hnd hmem
  rw [hc.2.2 k, commitAcct_eq, DB.write, get_putStates, if_pos rfl]
  cases KV.last (changedKeys acc) k with
  | some v => rfl
  | none => exact hD.2.2 k

theorem last_changedKeys (acc : Acct) (k : String) (v : Bytes) (hk : ∃ p ∈ acc.dirtyState, p.1 = k)
    (hv : ∀ p ∈ acc.dirtyState, p.1 = k → p.2 = v) :
    KV.last (changedKeys acc) k = if chg acc.originState (k, v) then some v else none := by
  rw [changedKeys_eq]
  have hp : ∀ p ∈ acc.dirtyState, p.1 = k → p = (k, v) := fun p hp e => by rw [← e, ← hv p hp e]
  split
  · rename_i hc
    obtain ⟨p, hp1, hp2⟩ := hk
    exact KV.last_eq_some ⟨p, List.mem_filter.mpr ⟨hp1, by rw [hp p hp1 hp2]; exact hc⟩, hp2⟩
      (fun q hq e => hv q (List.mem_filter.mp hq).1 e)
  · rename_i hc
    exact KV.last_eq_none (fun q hq e => hc (by rw [← hp q (List.mem_filter.mp hq).1 e]; exact (List.mem_filter.mp hq).2))

theorem last_changedKeys_get (acc : Acct) (hnd : (acc.dirtyState.map (·.1)).Nodup) (k : String) :
    KV.last (changedKeys acc) k = (KV.get acc.dirtyState k).bind (fun w => if chg acc.originState (k, w) then some w else none) := by
  cases hd : KV.get acc.dirtyState k with
  | none =>
    rw [changedKeys_eq]
    exact KV.last_eq_none (fun p hp => KV.get_eq_none_iff.mp hd p (List.mem_filter.mp hp).1)
  | some w =>
    exact last_changedKeys acc k w ⟨(k, w), KV.mem_of_get hd, rfl⟩ (fun p hp e => by
      have := KV.get_of_mem hnd (show (k, p.2) ∈ acc.dirtyState by rw [← e]; exact hp)
      rw [hd] at this
      exact (Option.some.inj this).symm)

def Cache.look (c : Cache) (a : Addr) (k : String) : Option Bytes := (KV.get c.state a).bind (fun m => KV.get m k)

theorem Cache.look_eq (c : Cache) (a : Addr) (k : String) : c.look a k = KV.get ((KV.get c.state a).getD []) k := by
  unfold Cache.look; cases KV.get c.state a <;> rfl

theorem cacheAdd_state (c : Cache) (a : Addr) (acc : Acct) :
    (cacheAdd c a acc).state =
      if (KV.get c.state a).isSome || !(acc.dirtyState.foldl (fun m p => KV.set m p.1 p.2) ((KV.get c.state a).getD [])).isEmpty then
        KV.set c.state a (acc.dirtyState.foldl (fun m p => KV.set m p.1 p.2) ((KV.get c.state a).getD []))
      else c.state := by
  unfold cacheAdd
  generalize (!beq acc.originCode acc.dirtyCode) = b1
  cases acc.dirtyAcc with
  | none =>
    simp only []
    generalize ((KV.get c.state a).isSome || !(List.isEmpty _)) = b2
    cases b1 <;> cases b2 <;> rfl
  | some d =>
    simp only []
    generalize ((KV.get c.state a).isSome || !(List.isEmpty _)) = b2
    cases acc.originAcc with
    | none => cases b1 <;> cases b2 <;> rfl
    | some o =>
      simp only []
      generalize (!beq d.codeHash o.codeHash) = b3
      cases b1 <;> cases b2 <;> cases b3 <;> rfl

theorem cacheAdd_look (c : Cache) (a : Addr) (acc : Acct) (b : Addr) (k : String) :
    (cacheAdd c a acc).look b k = if a = b then (KV.last acc.dirtyState k).or (c.look b k) else c.look b k := by
  unfold Cache.look
  rw [cacheAdd_state]
  by_cases hb : a = b
  · rw [if_pos hb, ← hb, ← Cache.look, Cache.look_eq, ← KV.get_foldl_set]
    generalize acc.dirtyState.foldl (fun m p => KV.set m p.1 p.2) ((KV.get c.state a).getD []) = sc
    split
    · rw [KV.get_set_eq, Option.bind_some]
    · -- no entry before and none now: nothing was written
      rename_i hc
      cases hs : KV.get c.state a with
      | some m => rw [hs] at hc; exact absurd rfl hc
      | none =>
        cases sc with
        | nil => rfl
        | cons p rest => rw [hs] at hc; exact absurd rfl hc
  · rw [if_neg hb]
    split
    · rw [KV.get_set_ne _ _ _ _ hb]
    · rfl

theorem cacheAdd_local : KeyLocal (fun p : Item => p.1) (fun c p => cacheAdd c p.1 p.2)
    (fun b c c' => ∀ k, Cache.look c b k = Cache.look c' b k) :=
  ⟨fun _ _ _ => rfl, fun h1 h2 k => (h1 k).trans (h2 k), fun c p b h k => by rw [cacheAdd_look, if_neg h]⟩

theorem cacheFold_look (items : List Item) (c : Cache) (hnd : (items.map (·.1)).Nodup) {a : Addr} {acc : Acct} (hmem : (a, acc) ∈ items)
    (k : String) : (items.foldl (fun c p => cacheAdd c p.1 p.2) c).look a k = (KV.last acc.dirtyState k).or (c.look a k) := by
  obtain ⟨c', h1, h2⟩ := cacheAdd_local.foldl_at items c hnd hmem
  rw [h2 k, cacheAdd_look, if_pos rfl, h1 k]

end Bxh.Ledger
