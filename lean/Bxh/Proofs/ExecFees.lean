import Bxh.Proofs.ExecBlock
/-!
# The sum of the balances over a transaction and a block: nothing is created, only the rounding of the fee is lost

Over a list of distinct accounts that contains the sender, one transaction — whatever it is, whether it succeeds, fails or cannot
pay — does not raise the sum and leaves no balance negative (`applyTx_total`); with the receiver of a transfer and all admins in
the list it lowers the sum by at most `n − 1`, the rounding of the split (`applyTx_total_ge`).
-/
namespace Bxh.Exec

theorem payGasFee_total_ge {cfg : Cfg} {l l' : Led} {s : String} {g : Nat} (e : payGasFee cfg l s g = some l')
    (accts : List String) (hnd : accts.Nodup) (hs : s ∈ accts) (hadm : ∀ a ∈ cfg.admins, a ∈ accts) (hn : 0 < cfg.admins.length) :
    total l accts - ((cfg.admins.length : Int) - 1) ≤ total l' accts := by
  rw [(payGasFee_eq e).2]; exact charge_total_ge cfg l s _ accts hnd hs hadm hn

theorem payLeft_total_ge (cfg : Cfg) (l : Led) (s : String) (accts : List String) (hnd : accts.Nodup) (hs : s ∈ accts)
    (hadm : ∀ a ∈ cfg.admins, a ∈ accts) (hn : 0 < cfg.admins.length) :
    total l accts - ((cfg.admins.length : Int) - 1) ≤ total (payLeftAsGasFee cfg l s) accts := by
  rw [payLeft_eq]; exact charge_total_ge cfg l s _ accts hnd hs hadm hn

def recvIn (tx : Tx) (accts : List String) : Prop := ∀ f t amt, tx = .xfer f t amt → t ∈ accts

theorem Body.total {env : Env} {l0 l1 : Led} {tx : Tx} {res : Except String String} (b : Body env l0 tx l1 res)
    (accts : List String) (hnd : accts.Nodup) (hs : tx.sender ∈ accts) :
    (NonNeg l0 → total l1 accts ≤ total l0 accts ∧ NonNeg l1) ∧ (recvIn tx accts → total l1 accts = total l0 accts) := by
  rcases b.bal with h | ⟨f, t, amt, rfl, h⟩
  · exact ⟨fun hn => ⟨Int.le_of_eq (total_of_bal h accts), nonNeg_of_bal h hn⟩, fun _ => total_of_bal h accts⟩
  · have ht := transfer_total h accts hnd
    have ha := transfer_amount h
    rw [if_pos (show f ∈ accts from hs)] at ht
    exact ⟨fun hn => ⟨by rw [ht]; split <;> omega, transfer_nonNeg h hn⟩, fun hr => by rw [ht, if_pos (hr f t amt rfl)]; omega⟩

/-- the fee step of any transaction is a charge `x` on a ledger `lb`: the one the body left, or, the body undone, one with the
balances the transaction started from -/
theorem applyTx_charged (env : Env) (l : Led) (tx : Tx) (inv : Option String)
    (accts : List String) (hnd : accts.Nodup) (hs : tx.sender ∈ accts) :
    ∃ lb x, (applyTx env l tx inv).1.bal = (charge env.cfg lb tx.sender x).bal ∧ x ≤ lb.getBal tx.sender ∧ (NonNeg lb → 0 ≤ x) ∧
      (NonNeg l → total lb accts ≤ total l accts ∧ NonNeg lb) ∧ (recvIn tx accts → total lb accts = total l accts) := by
  have b := applyBxh_body env (txStart l) tx inv rfl
  have ht := b.total accts hnd hs
  cases applyTx_outcome env l tx inv with
  | paid x hnn hle hout => exact ⟨_, x, by rw [hout]; rfl, hle, fun _ => hnn, ht⟩
  | unpaid rc _ hout =>
    have hrev := (b.revert_same rfl).2
    exact ⟨_, _, by rw [hout]; rfl, Int.le_refl _, fun hn => hn _,
      fun hn => ⟨Int.le_of_eq (total_congr hrev accts), fun a => by rw [hrev]; exact hn a⟩, fun _ => total_congr hrev accts⟩

theorem applyTx_total (env : Env) (l : Led) (tx : Tx) (inv : Option String)
    (accts : List String) (hnd : accts.Nodup) (hs : tx.sender ∈ accts) (hn : NonNeg l) :
    total (applyTx env l tx inv).1 accts ≤ total l accts ∧ NonNeg (applyTx env l tx inv).1 := by
  obtain ⟨lb, x, e, hx, h0, hle, _⟩ := applyTx_charged env l tx inv accts hnd hs
  obtain ⟨h1, h2⟩ := hle hn
  rw [total_of_bal e]
  exact ⟨Int.le_trans (charge_total_le _ _ _ _ accts hnd hs (h0 h2)) h1, nonNeg_of_bal e (charge_nonNeg _ _ _ _ h2 (h0 h2) hx)⟩

theorem applyTx_total_ge (env : Env) (l : Led) (tx : Tx) (inv : Option String)
    (accts : List String) (hnd : accts.Nodup) (hs : tx.sender ∈ accts) (hr : recvIn tx accts)
    (hadm : ∀ a ∈ env.cfg.admins, a ∈ accts) (hn : 0 < env.cfg.admins.length) :
    total l accts - ((env.cfg.admins.length : Int) - 1) ≤ total (applyTx env l tx inv).1 accts := by
  obtain ⟨lb, x, e, _, _, _, heq⟩ := applyTx_charged env l tx inv accts hnd hs
  rw [total_of_bal e, ← heq hr]
  exact charge_total_ge env.cfg lb tx.sender x accts hnd hs hadm hn

theorem execBlock_bal (cfg : Cfg) (n : Node) (txs : List (Tx × Bool)) :
    (execBlock cfg n txs).1.led.bal = (applyTxs cfg n.cache (n.height + 1) n.led txs).led.bal := by
  rw [execBlock_led, blockEnd, finalise_bal, setTimeoutRollback_bal, setTimeoutList_bal]

theorem execBlock_total (cfg : Cfg) (n : Node) (txs : List (Tx × Bool))
    (accts : List String) (hnd : accts.Nodup) (hs : ∀ p ∈ txs, p.1.sender ∈ accts) (hn : NonNeg n.led) :
    total (execBlock cfg n txs).1.led accts ≤ total n.led accts ∧ NonNeg (execBlock cfg n txs).1.led := by
  have hb := execBlock_bal cfg n txs
  rw [total_of_bal hb]
  exact (applyTxs_inv cfg n.cache (n.height + 1) (·.sender ∈ accts) (fun l => total l accts ≤ total n.led accts ∧ NonNeg l)
    (fun env l tx inv _ _ _ hg hl => (applyTx_total env l tx inv accts hnd hg hl.2).imp (fun h => Int.le_trans h hl.1) id)
    n.led ⟨Int.le_refl _, hn⟩ txs hs).imp id (nonNeg_of_bal hb)

theorem execBlock_total_ge (cfg : Cfg) (n : Node) (txs : List (Tx × Bool)) (accts : List String) (hnd : accts.Nodup)
    (hs : ∀ p ∈ txs, p.1.sender ∈ accts) (hr : ∀ p ∈ txs, recvIn p.1 accts)
    (hadm : ∀ a ∈ cfg.admins, a ∈ accts) (hn : 0 < cfg.admins.length) :
    total n.led accts - (txs.length : Int) * ((cfg.admins.length : Int) - 1) ≤ total (execBlock cfg n txs).1.led accts := by
  rw [total_of_bal (execBlock_bal cfg n txs)]
  -- the loop invariant counts the receipts written so far
  have key := applyTxs_fold cfg n.cache (n.height + 1) (fun tx => tx.sender ∈ accts ∧ recvIn tx accts)
    (fun l zs => total n.led accts - (zs.length : Int) * ((cfg.admins.length : Int) - 1) ≤ total l accts)
    (fun env l zs tx inv hc _ _ hg h => by
      subst hc
      have := applyTx_total_ge env l tx inv accts hnd hg.1 hg.2 hadm hn
      rw [List.length_append, List.length_singleton, Int.natCast_add, Int.add_mul, Int.natCast_one, Int.one_mul]
      omega)
    n.led (by simp) txs (fun p hp => ⟨hs p hp, hr p hp⟩)
  rwa [List.length_zip, List.length_map, applyTxs_rcpts_length, Nat.min_self] at key

end Bxh.Exec
