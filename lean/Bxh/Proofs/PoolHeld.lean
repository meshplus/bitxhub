import Bxh.Proofs.PoolBatch
/-!
# Which operation of the pool can make a held transaction's hash disappear

`hashMap` is what `GetTransaction` answers from.  Building batches never touches it; admission removes a hash only
when a later transaction takes the same (account, nonce); eviction only for its victims; a commit only for the hashes
it names.  The loops of `admission`, `insertTxs`, `commit` and `evict` get a name for their step, so that each is walked
through once.
-/
namespace Bxh.Props.C19
open Bxh.Mempool

/-- the victims of the age rule, as computed by `evict` (C19's statements name them; defined here, next to `evictOne`, for `evict_eq`) -/
def victims (p : Pool) (cut : Nat) : List TxR :=
  ((p.arrival.filter (fun e => e.2 ≤ cut)).map (·.1)).filterMap (fun ptr =>
    match KV.get p.items ptr with
    | none => none
    | some tx =>
      if ptr ∈ p.batched then none
      else if (tx.ts, tx.acct, tx.nonce) ∈ p.priority then none
      else if ptr ∈ p.parking then some tx
      else none)

end Bxh.Props.C19

namespace Bxh.Mempool
open Props.C19 (victims)

def SameHeld (p q : Pool) : Prop := q.hashMap = p.hashMap ∧ q.batched = p.batched

theorem SameHeld.trans {p q r : Pool} (h1 : SameHeld p q) (h2 : SameHeld q r) : SameHeld p r :=
  ⟨h2.1.trans h1.1, h2.2.trans h1.2⟩

theorem SameHeld.foldl {α : Type} {f : Pool → α → Pool} (hf : ∀ q x, SameHeld q (f q x)) (l : List α) (p : Pool) :
    SameHeld p (l.foldl f p) :=
  foldl_inv (P := SameHeld p) (fun q x hq => hq.trans (hf q x)) l ⟨rfl, rfl⟩

theorem generateBlock_hashMap (p : Pool) :
    (generateBlock p).1.hashMap = p.hashMap ∧ (generateBlock p).1.items = p.items := by
  obtain ⟨s, n, e, _⟩ := generateBlock_ok (Prod.eta (generateBlock p)).symm
  obtain ⟨c, b, hf⟩ := (genAcc_binv p).frame
  rw [e, hf]
  exact ⟨rfl, rfl⟩

/-- the step of `evict`'s second loop -/
def evictOne (p : Pool) (tx : TxR) : Pool :=
  { p with nidx := setDel p.nidx (tx.acct, tx.nonce), items := KV.erase p.items (tx.acct, tx.nonce),
           priority := setDel p.priority (tx.ts, tx.acct, tx.nonce), parking := setDel p.parking (tx.acct, tx.nonce),
           arrival := KV.erase p.arrival (tx.acct, tx.nonce) }

theorem evict_eq (p : Pool) (cut : Nat) :
    evict p cut = ((victims p cut).foldl evictOne { p with hashMap := (victims p cut).foldl (fun m tx => KV.erase m tx.hash) p.hashMap },
      (victims p cut).length) := rfl

theorem mem_victims (p : Pool) (cut : Nat) (tx : TxR) :
    tx ∈ victims p cut ↔ ∃ ptr g, KV.get p.items ptr = some tx ∧ (ptr, g) ∈ p.arrival ∧ g ≤ cut ∧
      ptr ∉ p.batched ∧ (tx.ts, tx.acct, tx.nonce) ∉ p.priority ∧ ptr ∈ p.parking := by
  unfold victims
  simp only [List.mem_filterMap, List.mem_map, List.mem_filter, decide_eq_true_eq]
  constructor
  · rintro ⟨_, ⟨⟨ptr, g⟩, ⟨ha, hg⟩, rfl⟩, hf⟩
    cases hi : KV.get p.items ptr with
    | none => rw [hi] at hf; cases hf
    | some t =>
      simp only [hi, Option.ite_none_left_eq_some, Option.ite_none_right_eq_some, Option.some.injEq] at hf
      obtain ⟨hb, hp, hk, rfl⟩ := hf
      exact ⟨ptr, g, hi, ha, hg, hb, hp, hk⟩
  · rintro ⟨ptr, g, hi, ha, hg, hb, hp, hk⟩
    exact ⟨ptr, ⟨(ptr, g), ⟨ha, hg⟩, rfl⟩, by simp only [hi, if_neg hb, if_neg hp, if_pos hk]⟩

theorem evictFold_held (vs : List TxR) (p : Pool) : SameHeld p (vs.foldl evictOne p) :=
  SameHeld.foldl (f := evictOne) (fun _ _ => ⟨rfl, rfl⟩) vs p

theorem dropTxs_held (p : Pool) (txs : List TxR) : SameHeld p (dropTxs p txs) := by
  apply SameHeld.foldl
  intro _ _
  exact ⟨rfl, rfl⟩

/-- the step of the first loop of `processCommitTransactions`: (pool, commit nonces implied, accounts noted) -/
def commitName (acc : Pool × KV String Nat × List String) (h : String) : Pool × KV String Nat × List String :=
  match KV.get acc.1.hashMap h with
  | none => acc
  | some ptr =>
    let (p1, pre) := getCommit acc.1 ptr.1
    let nw := ptr.2 + 1
    let upd := if KV.getD acc.2.1 ptr.1 0 < nw && pre < nw then KV.set acc.2.1 ptr.1 nw else acc.2.1
    ({ p1 with hashMap := KV.erase p1.hashMap h, batched := setDel p1.batched ptr }, upd,
     if ptr.1 ∈ acc.2.2 then acc.2.2 else acc.2.2 ++ [ptr.1])

/-- the step of the second loop, per noted account -/
def commitForward (p : Pool) (a : String) : Pool :=
  let (p', cn) := getCommit p a
  let gone := ((noncesOf p' a).filter (· < cn)).filterMap (fun n => KV.get p'.items (a, n))
  let p'' := { p' with items := gone.foldl (fun m tx => KV.erase m (tx.acct, tx.nonce)) p'.items }
  dropTxs p'' gone

theorem commit_eq (p : Pool) (hashes : List String) :
    commit p hashes =
      let r := hashes.foldl commitName (p, [], [])
      let p2 := r.2.2.foldl commitForward { r.1 with commitN := r.2.1.foldl (fun m kv => KV.set m kv.1 kv.2) r.1.commitN }
      if p2.nonBatch > p2.priority.length then { p2 with nonBatch := p2.priority.length } else p2 := rfl

theorem commitName_held (acc : Pool × KV String Nat × List String) (h : String) :
    (commitName acc h).1.hashMap = KV.erase acc.1.hashMap h ∧
    ∀ x, x ∈ (commitName acc h).1.batched ↔ x ∈ acc.1.batched ∧ KV.get acc.1.hashMap h ≠ some x := by
  unfold commitName
  split
  · rename_i hnone
    exact ⟨(KV.erase_of_get_none _ _ hnone).symm, fun x => by simp [hnone]⟩
  · rename_i ptr hptr
    obtain ⟨c, hq, _⟩ := getCommit_eq acc.1 ptr.1
    rw [hq]
    refine ⟨rfl, fun x => ?_⟩
    simp only [mem_setDel, hptr, ne_eq, Option.some.injEq]
    exact and_congr_right fun _ => ⟨fun e1 e2 => e1 e2.symm, fun e1 e2 => e1 e2.symm⟩

theorem commitName_fold (hashes : List String) (acc : Pool × KV String Nat × List String) :
    (hashes.foldl commitName acc).1.hashMap = hashes.foldl KV.erase acc.1.hashMap ∧
    ∀ x, x ∈ (hashes.foldl commitName acc).1.batched ↔ x ∈ acc.1.batched ∧ ∀ h ∈ hashes, KV.get acc.1.hashMap h ≠ some x := by
  induction hashes generalizing acc with
  | nil => exact ⟨rfl, fun x => by simp⟩
  | cons h0 rest ih =>
    obtain ⟨e1, e2⟩ := ih (commitName acc h0)
    obtain ⟨s1, s2⟩ := commitName_held acc h0
    rw [List.foldl_cons, List.foldl_cons, e1, s1]
    refine ⟨rfl, fun x => ?_⟩
    rw [e2 x, s2 x, s1, List.forall_mem_cons, and_assoc]
    refine and_congr_right fun _ => and_congr_right fun hne => forall₂_congr fun h _ => ?_
    rw [KV.get_erase]
    split
    · rename_i e; subst e; simp [hne]
    · rfl

theorem commitForward_held (p : Pool) (a : String) : SameHeld p (commitForward p a) := by
  obtain ⟨c, hq, _⟩ := getCommit_eq p a
  unfold commitForward
  simp only
  refine SameHeld.trans ?_ (dropTxs_held _ _)
  rw [hq]
  exact ⟨rfl, rfl⟩

theorem commit_held (p : Pool) (hashes : List String) : SameHeld (hashes.foldl commitName (p, [], [])).1 (commit p hashes) := by
  rw [commit_eq]
  simp only
  generalize hashes.foldl commitName (p, [], []) = r
  have h2 : SameHeld r.1 _ := SameHeld.trans (q := { r.1 with commitN := r.2.1.foldl (fun m kv => KV.set m kv.1 kv.2) r.1.commitN })
    ⟨rfl, rfl⟩ (SameHeld.foldl commitForward_held r.2.2 _)
  split
  · exact h2
  · exact h2

theorem commit_hashMap_eq (p : Pool) (hashes : List String) : (commit p hashes).hashMap = hashes.foldl KV.erase p.hashMap :=
  (commit_held p hashes).1.trans (commitName_fold hashes _).1

theorem processDirty_held (p : Pool) (a : String) : SameHeld p (processDirty p a) := by
  obtain ⟨c, hq⟩ := getPending_pool p a
  unfold processDirty
  simp only
  rw [hq]
  exact ⟨rfl, rfl⟩

def ptrOf (t : TxR) : Ptr := (t.acct, t.nonce)

/-- the step of the admission loop: (pool, admitted so far, pointers seen so far) -/
def admitStep (acc : Pool × List TxR × List Ptr) (tx : TxR) : Pool × List TxR × List Ptr :=
  let (p1, cur) := getPending acc.1 tx.acct
  if tx.nonce < cur then (p1, acc.2.1, acc.2.2)
  else if (tx.acct, tx.nonce) ∈ acc.2.2 then (p1, acc.2.1, acc.2.2)
  else
    let seen := acc.2.2 ++ [(tx.acct, tx.nonce)]
    if (KV.get p1.hashMap tx.hash).isSome then (p1, acc.2.1, seen)
    else (p1, acc.2.1 ++ [tx], seen)

theorem admission_eq (p : Pool) (txs : List TxR) :
    admission p txs = ((txs.foldl admitStep (p, [], [])).1, (txs.foldl admitStep (p, [], [])).2.1) := rfl

theorem admission_facts (p : Pool) (txs : List TxR) :
    (∃ c, (admission p txs).1 = { p with commitN := c }) ∧
    (∀ v ∈ (admission p txs).2, v ∈ txs ∧ KV.get p.hashMap v.hash = none) ∧
    (admission p txs).2.Pairwise (fun a b => ptrOf a ≠ ptrOf b) := by
  rw [admission_eq]
  -- beside the claim: the pointer of whatever was let through has been noted
  have := foldl_inv_mem (P := fun (acc : Pool × List TxR × List Ptr) =>
      (∃ c, acc.1 = { p with commitN := c }) ∧
      (∀ v ∈ acc.2.1, v ∈ txs ∧ KV.get p.hashMap v.hash = none ∧ ptrOf v ∈ acc.2.2) ∧
      acc.2.1.Pairwise (fun a b => ptrOf a ≠ ptrOf b))
    (f := admitStep) txs (s := (p, [], [])) (h := ⟨⟨_, rfl⟩, fun _ hv => (nomatch hv), List.Pairwise.nil⟩)
    (hf := by
      rintro ⟨q, adm, seen⟩ x hx ⟨⟨c, hc⟩, hb3, hb4⟩
      obtain ⟨c', hq⟩ := getPending_pool q x.acct
      unfold admitStep
      generalize getPending q x.acct = g at hq
      obtain ⟨p1, cur⟩ := g
      cases hq
      cases hc
      dsimp only at hb3 hb4 ⊢
      have hb3' : ∀ v ∈ adm, v ∈ txs ∧ KV.get p.hashMap v.hash = none ∧ ptrOf v ∈ seen ++ [(x.acct, x.nonce)] :=
        fun v hv => ⟨(hb3 v hv).1, (hb3 v hv).2.1, List.mem_append_left _ (hb3 v hv).2.2⟩
      by_cases h1 : x.nonce < cur
      · rw [if_pos h1]; exact ⟨⟨c', rfl⟩, hb3, hb4⟩
      rw [if_neg h1]
      by_cases h2 : (x.acct, x.nonce) ∈ seen
      · rw [if_pos h2]; exact ⟨⟨c', rfl⟩, hb3, hb4⟩
      rw [if_neg h2]
      by_cases h3 : (KV.get p.hashMap x.hash).isSome = true
      · rw [if_pos h3]; exact ⟨⟨c', rfl⟩, hb3', hb4⟩
      rw [if_neg h3, List.pairwise_append]
      refine ⟨⟨c', rfl⟩, fun v hv => ?_, hb4, List.pairwise_singleton _ _, fun a ha b' hb' e => h2 ?_⟩
      · rcases List.mem_append.mp hv with hv | hv
        · exact hb3' v hv
        · rw [List.mem_singleton.mp hv]
          exact ⟨hx, by simpa using h3, List.mem_append_right _ (List.mem_singleton.mpr rfl)⟩
      · rw [List.mem_singleton.mp hb'] at e
        have := (hb3 a ha).2.2
        rwa [e] at this)
  exact ⟨this.1, fun v hv => ⟨(this.2.1 v hv).1, (this.2.1 v hv).2.1⟩, this.2.2⟩

def insertOne (group : Nat) (p : Pool) (tx : TxR) : Pool :=
  let ptr : Ptr := (tx.acct, tx.nonce)
  let hm := match KV.get p.items ptr with
    | some old => if old.hash ≠ tx.hash then KV.erase p.hashMap old.hash else p.hashMap
    | none => p.hashMap
  { p with hashMap := KV.set hm tx.hash ptr, items := KV.set p.items ptr tx,
           nidx := setIns p.nidx ptr, arrival := KV.set p.arrival ptr group }

theorem insertTxs_eq (p : Pool) (valid : List TxR) (group : Nat) : insertTxs p valid group = valid.foldl (insertOne group) p := rfl

theorem insertTxs_nidx_nodup (valid : List TxR) (group : Nat) (p : Pool) (h : p.nidx.Nodup) : (insertTxs p valid group).nidx.Nodup := by
  rw [insertTxs_eq]
  exact foldl_inv (P := fun q : Pool => q.nidx.Nodup) (fun q _ hq => setIns_nodup _ _ hq) valid h

theorem insertOne_keyLocal (group : Nat) :
    KeyLocal ptrOf (insertOne group) (fun k s t => KV.get s.items k = KV.get t.items k) :=
  ⟨fun _ _ => rfl, Eq.trans, fun _ _ _ hne => KV.get_set_ne _ _ _ _ hne⟩

theorem insertOne_hashMap (group : Nat) (q : Pool) (tx : TxR) (h : String) (hne : tx.hash ≠ h) :
    KV.get (insertOne group q tx).hashMap h = KV.get q.hashMap h ∨ ∃ old, KV.get q.items (ptrOf tx) = some old ∧ old.hash = h := by
  unfold insertOne ptrOf
  rw [KV.get_set_ne _ _ _ _ hne]
  cases KV.get q.items (tx.acct, tx.nonce) with
  | none => exact Or.inl rfl
  | some old =>
    dsimp only
    by_cases hd : old.hash ≠ tx.hash
    · rw [if_pos hd, KV.get_erase]
      by_cases hoh : old.hash = h
      · exact Or.inr ⟨old, rfl, hoh⟩
      · rw [if_neg hoh]; exact Or.inl rfl
    · rw [if_neg hd]; exact Or.inl rfl

theorem insertTxs_hashMap (p : Pool) (valid : List TxR) (group : Nat) (h : String) (ptr : Ptr)
    (hh : KV.get p.hashMap h = some ptr)
    (hfresh : ∀ v ∈ valid, KV.get p.hashMap v.hash = none)
    (hpw : valid.Pairwise (fun a b => ptrOf a ≠ ptrOf b)) :
    KV.get (insertTxs p valid group).hashMap h = some ptr ∨
      ∃ tx ∈ valid, ∃ old, KV.get p.items (ptrOf tx) = some old ∧ old.hash = h ∧ tx.hash ≠ h := by
  rw [insertTxs_eq]
  -- the hash stays held up to the first step that takes its pointer or brings the hash itself (none does: `hfresh`);
  -- no earlier step wrote under that pointer (`hpw`), so what is superseded there was held by `p`
  rcases foldl_keeps_or_breaks (f := insertOne group) (Keep := fun q => KV.get q.hashMap h = some ptr)
      (Why := fun q tx => tx.hash = h ∨ ∃ old, KV.get q.items (ptrOf tx) = some old ∧ old.hash = h)
      (fun q tx hq => (Decidable.em (tx.hash = h)).elim (fun e => Or.inr (Or.inl e))
        fun e => (insertOne_hashMap group q tx h e).imp (·.trans hq) Or.inr) valid hh with hk | ⟨pre, tx, post, e, hw⟩
  · exact Or.inl hk
  · subst e
    have hin : tx ∈ pre ++ tx :: post := List.mem_append_right _ List.mem_cons_self
    have hne : tx.hash ≠ h := fun e => nomatch (e ▸ hfresh tx hin).symm.trans hh
    obtain ⟨old, ho, hoh⟩ := hw.resolve_left hne
    rw [(insertOne_keyLocal group).foldl_other (ptrOf tx) pre p
      fun y hy => (List.pairwise_append.mp hpw).2.2 y hy tx List.mem_cons_self] at ho
    exact Or.inr ⟨tx, hin, old, ho, hoh, hne⟩

/-- the pool `ProcessTransactions` has built when it decides whether to cut a batch -/
def processPre (p : Pool) (txs : List TxR) (group : Nat) : Pool :=
  (dedup ((admission p txs).2.map (·.acct))).foldl processDirty (insertTxs (admission p txs).1 (admission p txs).2 group)

theorem process_eq (p : Pool) (txs : List TxR) (isLeader : Bool) (group : Nat) :
    process p txs isLeader group =
      if isLeader && (processPre p txs group).nonBatch ≥ (processPre p txs group).batchSize && !(processPre p txs group).timed
      then generateBlock (processPre p txs group) else (processPre p txs group, none) := rfl

end Bxh.Mempool
