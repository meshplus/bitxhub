import Bxh.Proofs.LedgerFlush
/-!
# `QueryByPrefix` lists exactly the live keys under the prefix

`SimpleAccount.Query` collects the committed values from the database, lays the account cache over them (what earlier
blocks flushed but did not commit yet), then the writes of the current block, dropping keys whose value is empty.
Here: the map it builds holds, for every key `k`, exactly the answer `GetState` gives for `k` (`peekState`) when `k` has
the prefix and that answer is a present value, and nothing otherwise.  The memo of committed values (`originState`) that
`GetState` consults and `Query` does not is bridged by the coherence invariant `ObjCoh`.

`query_exact` also assumes that the database and the account's entry in the cache are maps (`StoreWf`, for the whole cache; `queryHypB`
checks it and `ObjCoh` by computation).
-/
namespace Bxh.Ledger
open Bxh

def overlay (pfx : String) (m src : KV String Bytes) : KV String Bytes :=
  src.foldl (fun m p =>
    if p.1.startsWith pfx then
      if present p.2 then KV.set m p.1 p.2 else KV.erase m p.1
    else m) m

def dbLayer (st : KV (Addr × String) String) (a : Addr) (pfx : String) : KV String Bytes :=
  ((st.filter (fun p => p.1.1 == a && p.1.2.startsWith pfx)).filter (fun p => p.2 != "")).map (fun p => (p.1.2, some p.2))

def live (v : Bytes) : Option Bytes := if present v then some v else none

theorem live_eq (v : Bytes) : live v = if v.getD "" = "" then none else some (some (v.getD "")) := by
  cases v with
  | none => rfl
  | some s => simp [live, present]

theorem live_congr {x y : Bytes} (h : x.getD "" = y.getD "") : live x = live y := by
  rw [live_eq, live_eq, h]

theorem query_eq (l : L) (a : Addr) (pfx : String) :
    (query l a pfx).2 =
      ((overlay pfx (overlay pfx (dbLayer l.db.state a pfx) ((KV.get l.cache.state a).getD []))
        (getOrCreate l a).2.dirtyState).map (·.2)).mergeSort (fun x y => x.getD "" ≤ y.getD "") := by
  obtain ⟨hc, hd⟩ := getOrCreate_cache_db l a
  unfold query overlay dbLayer
  cases hg : getOrCreate l a with
  | mk l1 acc =>
    rw [hg] at hc hd
    simp only at hc hd ⊢
    rw [hc, hd]

theorem overlay_step (m : KV String Bytes) (k0 : String) (v0 : Bytes) :
    (if present v0 then KV.set m k0 v0 else KV.erase m k0) = KV.put m k0 (live v0) := by
  unfold live; split <;> rfl

theorem overlay_step_get (pfx : String) (m : KV String Bytes) (k0 : String) (v0 : Bytes) (k : String) :
    KV.get (if k0.startsWith pfx then (if present v0 then KV.set m k0 v0 else KV.erase m k0) else m) k =
      if k0 = k then (if k0.startsWith pfx then live v0 else KV.get m k) else KV.get m k := by
  rw [overlay_step]
  by_cases hp : k0.startsWith pfx = true
  · rw [if_pos hp, if_pos hp, KV.get_put]
  · rw [if_neg hp, if_neg hp, ite_self]

theorem overlay_get (pfx : String) (src : KV String Bytes) : ∀ (m : KV String Bytes), (src.map (·.1)).Nodup → ∀ k,
    KV.get (overlay pfx m src) k =
      match KV.get src k with
      | some v => if k.startsWith pfx then live v else KV.get m k
      | none => KV.get m k := by
  induction src with
  | nil => intro m _ k; rfl
  | cons p rest ih =>
    intro m hnd k
    obtain ⟨k0, v0⟩ := p
    simp only [List.map_cons, List.nodup_cons] at hnd
    have hstep : overlay pfx m ((k0, v0) :: rest) =
        overlay pfx (if k0.startsWith pfx then (if present v0 then KV.set m k0 v0 else KV.erase m k0) else m) rest := rfl
    rw [hstep, ih _ hnd.2 k, overlay_step_get]
    by_cases hk : k0 = k
    · subst hk
      have hn : KV.get rest k0 = none := KV.get_eq_none_iff.mpr (fun p hp e => hnd.1 (List.mem_map.mpr ⟨p, hp, e⟩))
      simp [hn, KV.get]
    · simp only [hk, if_false, KV.get]

theorem overlay_nodup (pfx : String) (src : KV String Bytes) (m : KV String Bytes) (h : (m.map (·.1)).Nodup) :
    ((overlay pfx m src).map (·.1)).Nodup :=
  foldl_inv (P := fun m : KV String Bytes => (m.map (·.1)).Nodup) (fun m p hm => by
    split
    · rw [overlay_step]; exact KV.put_nodup _ p.1 _ hm
    · exact hm) src h

theorem mem_dbLayer {st : KV (Addr × String) String} {a : Addr} {pfx k : String} {v : Bytes} :
    (k, v) ∈ dbLayer st a pfx ↔ ∃ s, v = some s ∧ ((a, k), s) ∈ st ∧ k.startsWith pfx = true ∧ s ≠ "" := by
  unfold dbLayer
  simp only [List.mem_map, List.mem_filter, Bool.and_eq_true, beq_iff_eq, bne_iff_ne, Prod.mk.injEq]
  constructor
  · rintro ⟨⟨⟨a0, k0⟩, s⟩, ⟨⟨hm, ha, hp⟩, hs⟩, hk, hv⟩
    cases ha; cases hk
    exact ⟨s, hv.symm, hm, hp, hs⟩
  · rintro ⟨s, hv, hm, hp, hs⟩
    exact ⟨((a, k), s), ⟨⟨hm, rfl, hp⟩, hs⟩, rfl, hv.symm⟩

theorem dbLayer_nodup (a : Addr) (pfx : String) (st : KV (Addr × String) String) (hnd : (st.map (·.1)).Nodup) :
    ((dbLayer st a pfx).map (·.1)).Nodup := by
  unfold dbLayer
  rw [List.map_map, List.nodup_iff_pairwise_ne, List.pairwise_map]
  -- the store keys kept are distinct and all belong to `a`, so their second components are distinct
  have hst := ((List.pairwise_map.mp (List.nodup_iff_pairwise_ne.mp hnd)).filter
    (fun p => p.1.1 == a && p.1.2.startsWith pfx)).filter (fun p => p.2 != "")
  refine hst.imp_of_mem (fun {p q} hp hq hne e => hne ?_)
  have ha : ∀ r ∈ (st.filter (fun p => p.1.1 == a && p.1.2.startsWith pfx)).filter (fun p => p.2 != ""), r.1.1 = a := fun r hr => by
    have := (List.mem_filter.mp (List.mem_filter.mp hr).1).2
    simp only [Bool.and_eq_true, beq_iff_eq] at this
    exact this.1
  exact Prod.ext ((ha p hp).trans (ha q hq).symm) e

theorem dbLayer_get (a : Addr) (pfx : String) : ∀ (st : KV (Addr × String) String), (st.map (·.1)).Nodup → ∀ k,
    KV.get (dbLayer st a pfx) k = if k.startsWith pfx then live (KV.get st (a, k)) else none := by
  intro st hnd k
  by_cases hb : ∃ s, KV.get st (a, k) = some s ∧ k.startsWith pfx = true ∧ s ≠ ""
  · obtain ⟨s, hs, hp, hne⟩ := hb
    rw [KV.get_of_mem (dbLayer_nodup a pfx st hnd) (mem_dbLayer.mpr ⟨s, rfl, KV.mem_of_get hs, hp, hne⟩), if_pos hp, hs]
    simp [live, present, hne]
  · -- the layer has no binding; and the stored value, if there is one, is empty or the key lacks the prefix
    rw [KV.get_eq_none_iff.mpr (fun q hq e => by
      obtain ⟨s, _, hm, hp, hne⟩ := mem_dbLayer.mp (show (k, q.2) ∈ dbLayer st a pfx from e ▸ hq)
      exact hb ⟨s, KV.get_of_mem hnd hm, hp, hne⟩)]
    by_cases hp : k.startsWith pfx = true
    · rw [if_pos hp]
      cases hs : KV.get st (a, k) with
      | none => rfl
      | some s =>
        have : s = "" := Decidable.of_not_not (fun hne => hb ⟨s, hs, hp, hne⟩)
        rw [this]; rfl
    · rw [if_neg hp]

theorem lower_layers_get (l : L) (a : Addr) (pfx k : String) (hdb : (l.db.state.map (·.1)).Nodup)
    (hcache : ∀ m, KV.get l.cache.state a = some m → (m.map (·.1)).Nodup) :
    KV.get (overlay pfx (dbLayer l.db.state a pfx) ((KV.get l.cache.state a).getD [])) k =
      if k.startsWith pfx then live (below l a k) else none := by
  have hcn : (((KV.get l.cache.state a).getD []).map (·.1)).Nodup := by
    cases hm : KV.get l.cache.state a with
    | none => exact List.nodup_nil
    | some m => exact hcache m hm
  rw [overlay_get pfx _ _ hcn k, dbLayer_get a pfx _ hdb k, ← Cache.look_eq, below_eq]
  by_cases hp : k.startsWith pfx = true
  · simp only [hp, if_true]; cases l.cache.look a k <;> rfl
  · simp only [hp]; cases l.cache.look a k <;> rfl

theorem query_exact (l : L) (a : Addr) (pfx : String) (hC : ObjCoh l) (hdb : (l.db.state.map (·.1)).Nodup)
    (hcache : ∀ m, KV.get l.cache.state a = some m → (m.map (·.1)).Nodup) :
    ∃ m : KV String Bytes, (m.map (·.1)).Nodup ∧ (query l a pfx).2.Perm (m.map (·.2)) ∧
      ∀ k, KV.get m k = if k.startsWith pfx then live (peekState l a k) else none := by
  have hA := objOf_coh hC a
  rw [← getOrCreate_obj] at hA
  refine ⟨overlay pfx (overlay pfx (dbLayer l.db.state a pfx) ((KV.get l.cache.state a).getD [])) (getOrCreate l a).2.dirtyState,
    ?_, ?_, ?_⟩
  · apply overlay_nodup
    apply overlay_nodup
    exact dbLayer_nodup a pfx _ hdb
  · rw [query_eq]
    exact List.mergeSort_perm _ _
  · intro k
    rw [overlay_get pfx _ _ hA.dnodup k, lower_layers_get l a pfx k hdb hcache, peekState_eq, ← getOrCreate_obj]
    unfold rdAcct
    cases hd : KV.get (getOrCreate l a).2.dirtyState k with
    | some v => simp only; split <;> rfl
    | none =>
      cases ho : KV.get (getOrCreate l a).2.originState k with
      | some v =>
        rw [live_congr (hA.memo k v ho)]
      | none => rfl

/-- the stores below the block's objects are maps -/
structure StoreWf (l : L) : Prop where
  db : (l.db.state.map (·.1)).Nodup
  cache : ∀ a m, KV.get l.cache.state a = some m → (m.map (·.1)).Nodup

theorem StoreWf.of_empty : StoreWf ({} : L) := ⟨List.nodup_nil, fun a m h => nomatch h⟩

theorem StoreWf.congr {l l' : L} (h : StoreWf l) (hc : l'.cache = l.cache) (hd : l'.db = l.db) : StoreWf l' :=
  ⟨by rw [hd]; exact h.db, by rw [hc]; exact h.cache⟩

def CacheWf (c : Cache) : Prop := ∀ a m, KV.get c.state a = some m → (m.map (·.1)).Nodup

theorem cacheAdd_wf (c : Cache) (a : Addr) (acc : Acct) (h : CacheWf c) : CacheWf (cacheAdd c a acc) := by
  intro b m hm
  rw [cacheAdd_state] at hm
  split at hm
  · rw [KV.get_set] at hm
    split at hm
    · cases hm
      refine foldl_inv (P := fun m : KV String Bytes => (m.map (·.1)).Nodup) (f := fun m (p : String × Bytes) => KV.set m p.1 p.2)
        (fun s x hs => KV.set_nodup _ x.1 x.2 hs) _ ?_
      cases he : KV.get c.state a with
      | none => exact List.nodup_nil
      | some m0 => exact h a m0 he
    · exact h b m hm
  · exact h b m hm

theorem StoreWf.flush (H : RootPre → String) {l : L} (h : StoreWf l) : StoreWf (Ledger.flush H l).1 := by
  refine ⟨h.db, ?_⟩
  rw [flush_cache]
  exact foldl_inv (P := CacheWf) (f := fun c (p : Item) => cacheAdd c p.1 p.2) (fun c p hc => cacheAdd_wf c p.1 p.2 hc) _ h.cache

theorem StoreWf.commit {l l' : L} (h : StoreWf l) (hh : Nat) (f : Flushed) (hc : Ledger.commit l hh f = some l') : StoreWf l' := by
  obtain ⟨e1, e2⟩ := commit_state_cache hc
  refine ⟨?_, by rw [e2]; exact h.cache⟩
  rw [e1]
  exact foldl_inv (P := fun d : DB => (d.state.map (·.1)).Nodup) (f := fun db (p : Item) => commitAcct db p.1 p.2)
    (fun d p hd => by rw [commitAcct_eq]; exact putStates_nodup p.1 _ _ hd) _ h.db

theorem StoreWf.writes {l : L} (h : StoreWf l) (ws : List SWrite) : StoreWf (writes ws l) :=
  h.congr (writes_frame ws l).cache (writes_frame ws l).db

theorem StoreWf.reopen {l l' : L} (h : StoreWf l) (hr : Ledger.reopen l = some l') : StoreWf l' := by
  have r := reopen_ok hr
  exact ⟨by rw [r.db]; exact h.db, by rw [r.cache]; intro a m hm; cases hm⟩

/-- `ObjCoh` and `StoreWf` as a computation (every binding is checked, not only the first one per key): the model driver evaluates it
at every `query` of every generated history, so the evidence says how many reachable states the exactness theorem speaks about -/
def queryHypB (l : L) : Bool :=
  decide ((l.accounts.map (·.1)).Nodup) &&
  l.accounts.all (fun p =>
    p.2.originState.all (fun q => decide (q.2.getD "" = (below l p.1 q.1).getD "")) &&
    p.2.dirtyState.all (fun q => (KV.get p.2.originState q.1).isSome) &&
    decide ((p.2.dirtyState.map (·.1)).Nodup)) &&
  decide ((l.db.state.map (·.1)).Nodup) &&
  l.cache.state.all (fun p => decide ((p.2.map (·.1)).Nodup))

theorem queryHypB_sound (l : L) (h : queryHypB l = true) : ObjCoh l ∧ StoreWf l := by
  unfold queryHypB at h
  simp only [Bool.and_eq_true, decide_eq_true_eq, List.all_eq_true] at h
  obtain ⟨⟨⟨h1, h2⟩, h3⟩, h4⟩ := h
  refine ⟨⟨h1, ?_, ?_, ?_⟩, ⟨h3, ?_⟩⟩
  · intro a acc hg k v hk
    exact ((h2 _ (KV.mem_of_get hg)).1.1) _ (KV.mem_of_get hk)
  · intro a acc hg k hk
    obtain ⟨v, hd⟩ := Option.isSome_iff_exists.mp hk
    exact ((h2 _ (KV.mem_of_get hg)).1.2) _ (KV.mem_of_get hd)
  · intro a acc hg
    exact (h2 _ (KV.mem_of_get hg)).2
  · intro a m hm
    exact h4 _ (KV.mem_of_get hm)

end Bxh.Ledger
