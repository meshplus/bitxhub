import Bxh.Model.Chain
/-!
# What each operation of the chain store does

A node's *chain side* is its index, tables, block count and cached meta (everything but the state ledger and the serial): all
getters read only that.
-/
namespace Bxh.Chain

theorem getElem?_snoc {α : Type} {l : List α} {b c : α} {i : Nat} :
    (l ++ [b])[i]? = some c ↔ l[i]? = some c ∨ (i = l.length ∧ b = c) := by
  rw [List.getElem?_append, List.getElem?_singleton]
  split
  · simp; omega
  · rw [List.getElem?_eq_none (by omega)]
    split <;> simp <;> omega

theorem getElem?_snoc_top {α : Type} {l : List α} {b : α} {k : Nat} (hl : l.length = k) : (l ++ [b])[k + 1 - 1]? = some b :=
  getElem?_snoc.mpr (Or.inr ⟨hl.symm, rfl⟩)

theorem length_snoc {α : Type} {l : List α} {b : α} {k : Nat} (hl : l.length = k) : (l ++ [b]).length = k + 1 := by
  rw [List.length_append, hl]; rfl

theorem getElem?_take_some {α : Type} {l : List α} {c : α} {k i : Nat} :
    (l.take k)[i]? = some c ↔ i < k ∧ l[i]? = some c := by
  rw [List.getElem?_take]
  simp

theorem stored_lookup {n : Node} {h : Nat} {b : Blk} (h1 : 1 ≤ h) (hb : n.tbl.bodies[h - 1]? = some b)
    (ht : n.tbl.txs[h - 1]? = some b) (hi : n.tbl.inter[h - 1]? = some b) (e1 : KV.get n.idx.heightIdx h = some b.hash)
    (e2 : KV.get n.idx.hashIdx b.hash = some h) (e3 : KV.get n.idx.txSet h = some b.txs) :
    getBlock n h false = some b ∧ getBlock n h true = some b ∧ getByHash n b.hash = some b ∧ getBlockHash n h = some b.hash ∧
    getIMeta n h = some b.counter ∧ getTxCount n h = some b.txs.length := by
  have h0 : ¬ h = 0 := Nat.ne_of_gt h1
  have g : getBlock n h false = some b := by simp only [getBlock, h0, if_false, hb, e3, Bool.false_eq_true, Option.map_some]
  refine ⟨g, ?_, ?_, e1, ?_, ?_⟩
  · simp only [getBlock, h0, if_false, hb, ht, if_true, Option.map_some]
  · simp only [getByHash, e2, Option.bind_some, g]
  · simp only [getIMeta, h0, if_false, hi, Option.map_some]
  · simp only [getTxCount, e3, Option.map_some]

theorem getBlock_none {n : Node} {h : Nat} (full : Bool) (hb : n.tbl.bodies.length ≤ h - 1) : getBlock n h full = none := by
  unfold getBlock
  split
  · rfl
  · rw [List.getElem?_eq_none hb]

/-- `persistChainMeta` + `UpdateChainMeta`: the stored copy of the chain meta and the cached one -/
def setMeta (n : Node) (md : Option Meta) : Node :=
  { n with idx := { n.idx with metaDB := md }, cmeta := md.getD (0, "zero", 0) }

/-- the new state ledger and serial are left as variables, so that nothing said about the chain side has to look into `stateCommit` -/
theorem persist_some {n n' : Node} {b : Blk} {txs : List String} {ctr : KV String Nat} (h : persist n txs ctr = some (n', b)) :
    b = mkBlk n txs ctr ∧ ∃ st' serial', n' = { applyBlk n b with st := st', serial := serial' } := by
  unfold persist at h
  split at h
  · cases h
  · cases h
    exact ⟨rfl, _, _, rfl⟩

theorem rollback_ok {n n' : Node} {t : Nat} (h : rollback n t = .ok n') :
    ∃ st', Ledger.rollback n.st t = .ok st' ∧ chainRollback { n with st := st' } t = .ok n' := by
  unfold rollback at h
  split at h
  · cases h
  · cases h
  · cases h
  · exact ⟨_, by assumption, h⟩

theorem chainRollback_higher {n : Node} {t : Nat} (h : n.cmeta.1 < t) : chainRollback n t = .error .higher :=
  if_pos h

theorem chainRollback_self (n : Node) : chainRollback n n.cmeta.1 = .ok n :=
  (if_neg (Nat.lt_irrefl _)).trans (if_pos rfl)

theorem chainRollback_below {n n' : Node} {t : Nat} (ht : t < n.cmeta.1) :
    chainRollback n t = .ok n' ↔
      ∃ n1 cnt, chainRollbackLoop n t (n.cmeta.1 - t) n.cmeta.1 n.cmeta.2.2 = some (n1, cnt) ∧
        ((t = 0 ∧ n' = setMeta n1 none) ∨
         (t ≠ 0 ∧ ∃ b, getBlock n1 t false = some b ∧ n' = setMeta n1 (some (t, b.hash, cnt)))) := by
  unfold chainRollback
  have h1 : ¬ n.cmeta.1 < t := Nat.lt_asymm ht
  have h2 : ¬ n.cmeta.1 = t := Nat.ne_of_gt ht
  simp only [h1, h2, if_false]
  constructor
  · intro h
    split at h
    · cases h
    · rename_i n1 cnt hl
      refine ⟨n1, cnt, hl, ?_⟩
      split at h
      · injection h with h; exact Or.inl ⟨by assumption, h.symm⟩
      · split at h
        · cases h
        · injection h with h; exact Or.inr ⟨by assumption, _, by assumption, h.symm⟩
  · rintro ⟨n1, cnt, hl, ⟨h0, rfl⟩ | ⟨h0, b, hg, rfl⟩⟩
    · rw [hl]; simp only [h0, if_true]; rfl
    · rw [hl]; simp only [h0, if_false, hg]; rfl

/-- the node after one round of the loop of `RollbackBlockChain` that removes block `b` at height `cur = n.blocks` -/
def dropHead (n : Node) (cur : Nat) (b : Blk) : Node :=
  { n with idx := { n.idx with txSet := KV.erase n.idx.txSet cur, heightIdx := KV.erase n.idx.heightIdx cur,
                                hashIdx := KV.erase n.idx.hashIdx b.hash,
                                txMeta := b.txs.foldl (fun m t => KV.erase m t) n.idx.txMeta },
           tbl := n.tbl.truncate (cur - 1), blocks := cur - 1 }

theorem loop_round {n : Node} {t cur : Nat} (fuel cnt : Nat) (r : Node × Nat) (h : t < cur) (hb : n.blocks = cur) :
    chainRollbackLoop n t (fuel + 1) cur cnt = some r ↔
      ∃ b im, getBlock n cur false = some b ∧ getIMeta n cur = some im ∧
        chainRollbackLoop (dropHead n cur b) t fuel (cur - 1) (cnt - (im.map (·.2)).foldl (· + ·) 0) = some r := by
  have h1 : ¬ cur ≤ t := Nat.not_le_of_gt h
  have h2 : ¬ n.blocks ≤ cur - 1 := by omega
  simp only [chainRollbackLoop, h1, h2, if_false]
  split
  · rename_i b im hg hi
    simp only [hg, hi, Option.some.injEq, exists_and_left, exists_eq_left', dropHead]
  · rename_i hno
    constructor
    · intro h; cases h
    · rintro ⟨b, im, hg, hi, _⟩; exact absurd hi (hno b im hg)

theorem reopen_ok {n n2 : Node} (h : reopen n = .ok n2) :
    n2.idx = n.idx ∧ n2.tbl = n.tbl.truncate n.tbl.minLen ∧ n2.blocks = n.tbl.minLen ∧
    n2.cmeta = n.idx.metaDB.getD (0, "zero", 0) := by
  unfold reopen at h
  simp only at h
  split at h
  · cases h
  · split at h
    · rename_i n2' hrb
      cases h
      -- the rollback is to the height the node was just given: the chain part of it does nothing
      obtain ⟨st', _, hc⟩ := rollback_ok hrb
      rw [chainRollback_self { n with tbl := _, blocks := _, cmeta := _, st := st' }] at hc
      cases hc
      exact ⟨rfl, rfl, rfl, rfl⟩
    all_goals cases h

end Bxh.Chain
