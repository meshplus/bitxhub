import Bxh.Proofs.ExecSteps
/-!
# Balances: what `transfer` and the fee functions do to them

`total l accts` is the sum of the balances of a list of distinct accounts.  Each function that writes a balance gets one
pointwise equation (`…_getBal`) and one equation for the sum (`…_total`, from `total_setBal`).  `payGasFee` and `payLeftAsGasFee`
are one operation, `charge`, with another amount.
-/
namespace Bxh.Exec

def total (l : Led) (accts : List String) : Int := (accts.map l.getBal).foldl (· + ·) 0

def NonNeg (l : Led) : Prop := ∀ a, 0 ≤ l.getBal a

theorem total_cons (l : Led) (a : String) (rest : List String) : total l (a :: rest) = l.getBal a + total l rest := by
  unfold total
  rw [← List.sum_eq_foldl, ← List.sum_eq_foldl, List.map_cons, List.sum_cons]

theorem total_congr {l l' : Led} (h : ∀ a, l'.getBal a = l.getBal a) (accts : List String) : total l' accts = total l accts := by
  unfold total
  congr 1
  exact List.map_congr_left (fun a _ => h a)

theorem total_of_bal {l l' : Led} (h : l'.bal = l.bal) (accts : List String) : total l' accts = total l accts :=
  total_congr (getBal_of_bal h) accts

theorem nonNeg_of_bal {l l' : Led} (h : l'.bal = l.bal) (hn : NonNeg l) : NonNeg l' := by
  intro a; rw [getBal_of_bal h]; exact hn a

theorem total_setBal (l : Led) (a : String) (v : Int) (accts : List String) (hnd : accts.Nodup) :
    total (l.setBal a v) accts = total l accts + (if a ∈ accts then v - l.getBal a else 0) := by
  induction accts with
  | nil => simp [total]
  | cons b rest ih =>
    have hnd' := List.nodup_cons.mp hnd
    rw [total_cons, total_cons, Led.getBal_setBal, ih hnd'.2]
    by_cases hab : a = b
    · subst hab
      rw [if_pos rfl, if_neg hnd'.1, if_pos List.mem_cons_self]
      omega
    · simp only [hab, List.mem_cons, false_or, if_false]
      omega

theorem nonNeg_setBal (l : Led) (a : String) (v : Int) (hn : NonNeg l) (hv : 0 ≤ v) : NonNeg (l.setBal a v) := by
  intro b
  rw [Led.getBal_setBal]
  split
  · exact hv
  · exact hn b

theorem transfer_ok {l l' : Led} {a b : String} {v : Int} (e : transfer l a b v = .ok l') :
    (v = 0 ∧ l' = l) ∨
    (0 < v ∧ v ≤ l.getBal a ∧
      l' = (l.setBal a (l.getBal a - v)).setBal b ((l.setBal a (l.getBal a - v)).getBal b + v)) := by
  unfold transfer at e
  by_cases h0 : v = 0
  · rw [if_pos h0] at e; cases e; exact .inl ⟨h0, rfl⟩
  · rw [if_neg h0] at e
    by_cases h1 : v < 0
    · rw [if_pos h1] at e; cases e
    · rw [if_neg h1] at e
      by_cases h2 : l.getBal a < v
      · rw [if_pos h2] at e; cases e
      · rw [if_neg h2] at e; cases e
        exact .inr ⟨Int.lt_iff_le_and_ne.mpr ⟨Int.not_lt.mp h1, Ne.symm h0⟩, Int.not_lt.mp h2, rfl⟩

theorem transfer_steps {l l' : Led} {a b : String} {v : Int} (e : transfer l a b v = .ok l') : Steps l l' := by
  rcases transfer_ok e with ⟨_, rfl⟩ | ⟨_, _, rfl⟩
  · exact .refl _
  · exact .setBal _ _ (.setBal _ _ (.refl _))

/-- also when sender and receiver are the same account -/
theorem transfer_getBal {l l' : Led} {a b : String} {v : Int} (e : transfer l a b v = .ok l') (c : String) :
    l'.getBal c = l.getBal c - (if a = c then v else 0) + (if b = c then v else 0) := by
  rcases transfer_ok e with ⟨rfl, rfl⟩ | ⟨_, _, rfl⟩
  · simp
  · have debit : ∀ x, (l.setBal a (l.getBal a - v)).getBal x = l.getBal x - (if a = x then v else 0) := by
      intro x
      rw [Led.getBal_setBal]
      by_cases h : a = x
      · rw [if_pos h, if_pos h, h]
      · rw [if_neg h, if_neg h, Int.sub_zero]
    rw [Led.getBal_setBal, debit, debit]
    by_cases h : b = c
    · rw [if_pos h, if_pos h, h]
    · rw [if_neg h, if_neg h, Int.add_zero]

theorem transfer_amount {l l' : Led} {a b : String} {v : Int} (e : transfer l a b v = .ok l') : 0 ≤ v ∧ (v = 0 ∨ v ≤ l.getBal a) := by
  rcases transfer_ok e with ⟨rfl, _⟩ | ⟨h1, h2, _⟩
  · exact ⟨Int.le_refl _, .inl rfl⟩
  · exact ⟨Int.le_of_lt h1, .inr h2⟩

theorem transfer_nonNeg {l l' : Led} {a b : String} {v : Int} (e : transfer l a b v = .ok l') (hn : NonNeg l) : NonNeg l' := by
  rcases transfer_ok e with ⟨_, rfl⟩ | ⟨h0, h1, rfl⟩
  · exact hn
  · have h2 := nonNeg_setBal l a (l.getBal a - v) hn (by omega)
    exact nonNeg_setBal _ b _ h2 (by have := h2 b; omega)

theorem transfer_total {l l' : Led} {a b : String} {v : Int} (e : transfer l a b v = .ok l') (accts : List String) (hnd : accts.Nodup) :
    total l' accts = total l accts - (if a ∈ accts then v else 0) + (if b ∈ accts then v else 0) := by
  rcases transfer_ok e with ⟨rfl, rfl⟩ | ⟨_, _, rfl⟩
  · simp
  · rw [total_setBal _ b _ accts hnd, total_setBal l a _ accts hnd]
    split <;> split <;> omega

theorem transfer_store {l l' : Led} {a b : String} {v : Int} (e : transfer l a b v = .ok l') : l'.store = l.store := by
  rcases transfer_ok e with ⟨_, rfl⟩ | ⟨_, _, rfl⟩ <;> rfl

theorem credit_getBal (as : List String) (q : Int) (l : Led) (a : String) :
    (as.foldl (fun l x => l.setBal x (l.getBal x + q)) l).getBal a = l.getBal a + (as.count a : Int) * q := by
  induction as generalizing l with
  | nil => show l.getBal a = l.getBal a + ((0 : Nat) : Int) * q; omega
  | cons x rest ih =>
    rw [List.foldl_cons, ih, Led.getBal_setBal]
    by_cases hx : x = a
    · rw [if_pos hx, hx, List.count_cons_self, Int.natCast_add, Int.add_mul]; omega
    · rw [if_neg hx, List.count_cons_of_ne hx]

theorem credit_total (as : List String) (q : Int) (l : Led) (accts : List String) (hnd : accts.Nodup) :
    total (as.foldl (fun l x => l.setBal x (l.getBal x + q)) l) accts
      = total l accts + ((as.filter (· ∈ accts)).length : Int) * q := by
  induction as generalizing l with
  | nil => simp
  | cons x rest ih =>
    rw [List.foldl_cons, ih, total_setBal _ _ _ _ hnd]
    by_cases hx : x ∈ accts
    · simp [hx, Int.add_mul]; omega
    · simp [hx]

theorem payAdmins_store (cfg : Cfg) (l : Led) (f : Int) : (payAdmins cfg l f).store = l.store := by
  refine foldl_inv (P := fun l' : Led => l'.store = l.store) ?_ _ rfl
  exact fun _ _ h => h

theorem payAdmins_events (cfg : Cfg) (l : Led) (f : Int) : (payAdmins cfg l f).events = l.events := by
  refine foldl_inv (P := fun l' : Led => l'.events = l.events) ?_ _ rfl
  exact fun _ _ h => h

theorem payAdmins_steps (cfg : Cfg) (l : Led) (f : Int) : Steps l (payAdmins cfg l f) :=
  foldl_inv (P := Steps l) (fun _ _ h => .setBal _ _ h) _ (.refl l)

/-- take `x` from `s` and share it among the admins: `payGasFee` with `x` the fee, `payLeftAsGasFee` with `x` all that `s` holds -/
def charge (cfg : Cfg) (l : Led) (s : String) (x : Int) : Led := payAdmins cfg (l.setBal s (l.getBal s - x)) x

theorem payGasFee_eq {cfg : Cfg} {l l' : Led} {s : String} {g : Nat} (e : payGasFee cfg l s g = some l') :
    ((g * cfg.price : Nat) : Int) ≤ l.getBal s ∧ l' = charge cfg l s ((g * cfg.price : Nat) : Int) := by
  unfold payGasFee at e
  simp only at e
  split at e
  · cases e
  · rename_i h; cases e; exact ⟨Int.not_lt.mp h, rfl⟩

theorem payLeft_eq (cfg : Cfg) (l : Led) (s : String) : payLeftAsGasFee cfg l s = charge cfg l s (l.getBal s) := by
  unfold payLeftAsGasFee charge; rw [Int.sub_self]

theorem charge_store (cfg : Cfg) (l : Led) (s : String) (x : Int) : (charge cfg l s x).store = l.store := by
  unfold charge; rw [payAdmins_store]; rfl

theorem charge_events (cfg : Cfg) (l : Led) (s : String) (x : Int) : (charge cfg l s x).events = l.events := by
  unfold charge; rw [payAdmins_events]; rfl

theorem payLeft_events (cfg : Cfg) (l : Led) (s : String) : (payLeftAsGasFee cfg l s).events = l.events := by
  rw [payLeft_eq, charge_events]

theorem charge_getBal (cfg : Cfg) (l : Led) (s : String) (x : Int) (a : String) :
    (charge cfg l s x).getBal a
      = l.getBal a - (if s = a then x else 0) + (cfg.admins.count a : Int) * (x / (cfg.admins.length : Int)) := by
  unfold charge payAdmins
  rw [credit_getBal, Led.getBal_setBal]
  split
  · subst_vars; omega
  · omega

theorem charge_total (cfg : Cfg) (l : Led) (s : String) (x : Int) (accts : List String) (hnd : accts.Nodup) (hs : s ∈ accts) :
    total (charge cfg l s x) accts
      = total l accts - x + ((cfg.admins.filter (· ∈ accts)).length : Int) * (x / (cfg.admins.length : Int)) := by
  unfold charge payAdmins
  rw [credit_total _ _ _ _ hnd, total_setBal _ _ _ _ hnd, if_pos hs]
  omega

theorem split_bounds (n : Nat) (x : Int) :
    (0 ≤ x → (n : Int) * (x / (n : Int)) ≤ x) ∧ (0 < n → x - ((n : Int) - 1) ≤ (n : Int) * (x / (n : Int))) := by
  by_cases hn : n = 0
  · subst hn; simp
  · have hpos : (0 : Int) < n := by omega
    have h1 := Int.emod_nonneg x (Int.ne_of_gt hpos)
    have h2 := Int.emod_lt_of_pos x hpos
    have h3 := Int.mul_ediv_add_emod x n
    constructor <;> intro _ <;> omega

theorem charge_total_le (cfg : Cfg) (l : Led) (s : String) (x : Int) (accts : List String) (hnd : accts.Nodup) (hs : s ∈ accts)
    (hx : 0 ≤ x) : total (charge cfg l s x) accts ≤ total l accts := by
  rw [charge_total cfg l s x accts hnd hs]
  have hk : ((cfg.admins.filter (· ∈ accts)).length : Int) ≤ (cfg.admins.length : Int) := by
    exact_mod_cast List.length_filter_le _ _
  have hq : 0 ≤ x / (cfg.admins.length : Int) := Int.ediv_nonneg hx (by omega)
  have := Int.mul_le_mul_of_nonneg_right hk hq
  have := (split_bounds cfg.admins.length x).1 hx
  omega

/-- only the rounding is lost: with all admins in the list the sum falls by at most `n − 1` — whoever `s` is, an admin too (it
is debited first and then gets its share) -/
theorem charge_total_ge (cfg : Cfg) (l : Led) (s : String) (x : Int) (accts : List String) (hnd : accts.Nodup) (hs : s ∈ accts)
    (hadm : ∀ a ∈ cfg.admins, a ∈ accts) (hn : 0 < cfg.admins.length) :
    total l accts - ((cfg.admins.length : Int) - 1) ≤ total (charge cfg l s x) accts := by
  rw [charge_total cfg l s x accts hnd hs, List.filter_eq_self.mpr (fun a ha => by simpa using hadm a ha)]
  have := (split_bounds cfg.admins.length x).2 hn
  omega

theorem charge_nonNeg (cfg : Cfg) (l : Led) (s : String) (x : Int) (hn : NonNeg l) (h0 : 0 ≤ x) (hx : x ≤ l.getBal s) :
    NonNeg (charge cfg l s x) := by
  intro a
  rw [charge_getBal]
  have := hn a
  have : 0 ≤ (cfg.admins.count a : Int) * (x / (cfg.admins.length : Int)) :=
    Int.mul_nonneg (by omega) (Int.ediv_nonneg h0 (by omega))
  split
  · subst_vars; omega
  · omega

end Bxh.Exec
