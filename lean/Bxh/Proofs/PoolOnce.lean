import Bxh.Proofs.PoolHeld
/-!
# Who changes the set of batched pointers

`batched` (the `batchedTxs` map of `mempoolImpl`) grows only where a batch is built (`addPtr`) and shrinks only in
`processCommitTransactions`, by the pointers of the hashes the commit names.
-/
namespace Bxh.Mempool

theorem generateBlock_batched (p : Pool) (x : Ptr) :
    x ∈ (generateBlock p).1.batched ↔ (x ∈ p.batched ∨ x ∈ (genAcc p).result) := by
  obtain ⟨s, n, e, _⟩ := generateBlock_ok (Prod.eta (generateBlock p)).symm
  rw [e]
  exact (genAcc_binv p).grown x

theorem insertTxs_batched (p : Pool) (valid : List TxR) (group : Nat) : (insertTxs p valid group).batched = p.batched := by
  rw [insertTxs_eq]
  exact foldl_inv (P := fun q : Pool => q.batched = p.batched) (f := insertOne group) (fun _ _ hb => hb) valid rfl

theorem evict_batched (p : Pool) (cut : Nat) : (evict p cut).1.batched = p.batched := by
  rw [evict_eq]
  exact (evictFold_held _ _).2

theorem processPre_batched (p : Pool) (txs : List TxR) (group : Nat) : (processPre p txs group).batched = p.batched := by
  obtain ⟨c, ha⟩ := (admission_facts p txs).1
  exact ((SameHeld.foldl processDirty_held _ _).2.trans (insertTxs_batched _ _ _)).trans (by rw [ha])

theorem mem_commit_batched (p : Pool) (hashes : List String) (x : Ptr) :
    x ∈ (commit p hashes).batched ↔ x ∈ p.batched ∧ ∀ h ∈ hashes, KV.get p.hashMap h ≠ some x := by
  rw [(commit_held p hashes).2]
  exact (commitName_fold hashes _).2 x

theorem commit_batched (p : Pool) (hashes : List String) (x : Ptr) :
    (x ∈ (commit p hashes).batched → x ∈ p.batched) ∧
    (x ∈ p.batched → x ∉ (commit p hashes).batched → ∃ h ∈ hashes, KV.get p.hashMap h = some x) := by
  rw [mem_commit_batched]
  refine ⟨And.left, fun hx hnx => Classical.byContradiction fun hno => hnx ⟨hx, fun h hh e => hno ⟨h, hh, e⟩⟩⟩

end Bxh.Mempool
