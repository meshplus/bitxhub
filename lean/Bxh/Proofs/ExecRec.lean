import Bxh.Proofs.ExecSteps
/-!
# Who writes one-to-one transaction records (`tx-<id>`)

Only `Begin` / `BeginInterBitXHub` (a fresh record), `BeginInterBitXHub` again on an existing record (one FSM step by the
destination hub's notice) and `Report` (one FSM step by a receipt) write a `.txRec` key while an IBTP is handled; the timeout list, the one-to-many records,
the notification map and `ProcessIBTP` never do (their footprints, `ExecSteps.lean`).
-/
namespace Bxh.Exec
open Bxh

theorem processIBTP_rec (l : Led) (i : Ibtp) (ck : Checked) (c : StatusChange) (t : TxId) :
    (processIBTP l i ck c).1.getS (.txRec t) = l.getS (.txRec t) := (processIBTP_writes l i ck c).getS

theorem beginTransaction_rec {env : Env} {l : Led} {i : Ibtp} {ck : Checked} {r : Led × StatusChange}
    (e : beginTransaction env l i ck = .ok r) (t : TxId) :
    r.1.getS (.txRec t) = l.getS (.txRec t) ∨
    (t = { frm := ck.src, to := ck.dst, index := i.index } ∧ (ck.src.bxh = ck.dst.bxh ∨ l.getS (.txRec t) = none)) ∨
    (t = { frm := ck.src, to := ck.dst, index := i.index } ∧ ∃ rec st', l.getS (.txRec t) = some (.trec rec) ∧
      txFsmStep rec.status (noticeEvent i.ext) = some st' ∧ r.1.getS (.txRec t) = some (.trec { rec with status := st' })) := by
  obtain ⟨l', c⟩ := r
  rcases beginTransaction_ok e with ⟨hb, h0⟩ | ⟨hb, _, rfl, _⟩ | ⟨_, _, _, h0⟩
  · -- between two hubs: a fresh record where there was none, or one step by the notice on the record that is there
    by_cases ht : t = { frm := ck.src, to := ck.dst, index := i.index }
    · subst ht
      rcases tmBeginInter_ok h0 with ⟨hnone, _⟩ | ⟨rec, st', hrec, hst, rfl, _⟩
      · exact .inr (.inl ⟨rfl, .inr hnone⟩)
      · exact .inr (.inr ⟨rfl, rec, st', hrec, hst, by rw [Led.getS_addS, if_pos rfl]⟩)
    · left
      have hne : Key.txRec { frm := ck.src, to := ck.dst, index := i.index } ≠ Key.txRec t := fun h => ht (Key.txRec.inj h).symm
      rcases tmBeginInter_ok h0 with ⟨_, rfl, _⟩ | ⟨_, _, _, _, rfl, _⟩
      · rw [Led.getS_addS, if_neg hne]
      · rw [Led.getS_addS, if_neg hne]
  · -- one-to-one inside the hub: the record of the request's own id is overwritten
    by_cases ht : t = { frm := ck.src, to := ck.dst, index := i.index }
    · exact .inr (.inl ⟨ht, .inl hb⟩)
    · left
      rw [Led.getS_addS, if_neg (fun h => ht (Key.txRec.inj h).symm)]
  · exact .inl (tmBeginMulti_writes h0).getS

theorem tmReport_rec {l : Led} {id : TxId} {typ : Nat} {r : Led × StatusChange}
    (e : tmReport l id typ = .ok r) (t : TxId) :
    r.1.getS (.txRec t) = l.getS (.txRec t) ∨
    (t = id ∧ ∃ rec st', l.getS (.txRec id) = some (.trec rec) ∧ txFsmStep rec.status (receiptEvent typ) = some st' ∧
      r.1.getS (.txRec id) = some (.trec { rec with status := st' })) := by
  obtain ⟨l', c⟩ := r
  rcases tmReport_ok e with ⟨rec, st', hrec, hst, rfl, _⟩ | ⟨gid, g, g', l1, _, _, _, hcm, rfl, _⟩
  · by_cases ht : id = t
    · subst ht; exact .inr ⟨rfl, rec, st', hrec, hst, by rw [Led.getS_setS, if_pos rfl]⟩
    · left; rw [Led.getS_setS, if_neg (fun h => ht (Key.txRec.inj h))]
  · left
    rw [Led.getS_setS, if_neg nofun]
    exact (tmChangeMulti_writes hcm).getS

def recStatus (l : Led) (t : TxId) : Option Status :=
  match l.getS (.txRec t) with
  | some (.trec r) => some r.status
  | _ => none

theorem recStatus_congr {l l' : Led} {t : TxId} (h : l'.getS (.txRec t) = l.getS (.txRec t)) : recStatus l' t = recStatus l t := by
  unfold recStatus; rw [h]

theorem recStatus_some {l : Led} {t : TxId} {st : Status} (h : recStatus l t = some st) :
    ∃ r, l.getS (.txRec t) = some (.trec r) ∧ r.status = st := by
  unfold recStatus at h
  split at h
  · rename_i r hr; cases h; exact ⟨r, hr, rfl⟩
  · cases h

/-- the stored value `v` is the record `rec` after the step of the state machine that the IBTP `i` stands for — as a request (the
destination hub's notice) the event it names, as a receipt its own event —, with the deadline kept -/
def Moves (i : Ibtp) (rec : Rec) (v : Option Val) : Prop :=
  ∃ st', v = some (.trec { rec with status := st' }) ∧
    ((i.typ.isRequest = true ∧ txFsmStep rec.status (noticeEvent i.ext) = some st') ∨
     (i.typ.isResponse = true ∧ txFsmStep rec.status (receiptEvent i.typ.toNat) = some st'))

theorem Moves.step {i : Ibtp} {rec : Rec} {v : Option Val} (h : Moves i rec v) :
    ∃ st' ev, txFsmStep rec.status ev = some st' ∧ v = some (.trec { rec with status := st' }) := by
  obtain ⟨st', hv, ⟨-, hs⟩ | ⟨-, hs⟩⟩ := h
  · exact ⟨st', _, hs, hv⟩
  · exact ⟨st', _, hs, hv⟩

/-- one handled IBTP and the record of `t`: untouched; or the IBTP names exactly `t` and is a request (no notice, or none that
found a record), or it moves the record -/
theorem handleIBTP_rec_full {env : Env} {l : Led} {i : Ibtp} {ck : Checked} {r : Led × String}
    (hck : checkIBTP env l i = .ok ck) (h : handleIBTP env l i = .ok r) (t : TxId) :
    r.1.getS (.txRec t) = l.getS (.txRec t) ∨
    (t = { frm := ck.src, to := ck.dst, index := i.index } ∧
      ((i.typ.isRequest = true ∧ (ck.notice = false ∨ l.getS (.txRec t) = none)) ∨
       ∃ rec, l.getS (.txRec t) = some (.trec rec) ∧ Moves i rec (r.1.getS (.txRec t)))) := by
  obtain ⟨ck', l1, c, hck', hb, p, hp, _, hl⟩ := handleIBTP_ok h
  cases hck.symm.trans hck'
  -- everything after the begin / report leaves records alone
  rw [(handleIBTP_after hp hl).getS]
  rcases hb with ⟨hreq, hr⟩ | ⟨_, hresp, hy⟩
  · rcases beginTransaction_rec hr t with h1 | ⟨ht, h1⟩ | ⟨ht, rec, st', h2, h3, h4⟩
    · exact .inl h1
    · exact .inr ⟨ht, .inl ⟨hreq, h1.imp_left (checkIBTP_local_no_notice hck)⟩⟩
    · exact .inr ⟨ht, .inr ⟨rec, h2, st', h4, .inl ⟨hreq, h3⟩⟩⟩
  · rcases tmReport_rec hy t with h1 | ⟨ht, rec, st', h2, h3, h4⟩
    · exact .inl h1
    · subst ht
      exact .inr ⟨rfl, .inr ⟨rec, h2, st', h4, .inr ⟨hresp, h3⟩⟩⟩

/-- the other direction of `handleIBTP_rec_full`; a request moves the record between two hubs only (`hne`: inside one hub it
overwrites the record or, with a Group, leaves it) -/
theorem handleIBTP_moves {env : Env} {l : Led} {i : Ibtp} {ck : Checked} {r : Led × String} {rec : Rec}
    (hck : checkIBTP env l i = .ok ck) (h : handleIBTP env l i = .ok r)
    (hrec : l.getS (.txRec { frm := ck.src, to := ck.dst, index := i.index }) = some (.trec rec))
    (hne : i.typ.isRequest = true → ck.src.bxh ≠ ck.dst.bxh) :
    Moves i rec (r.1.getS (.txRec { frm := ck.src, to := ck.dst, index := i.index })) := by
  obtain ⟨ck', l1, c, hck', hb, p, hp, _, hl⟩ := handleIBTP_ok h
  cases hck.symm.trans hck'
  rw [(handleIBTP_after hp hl).getS]
  rcases hb with ⟨hreq, hr⟩ | ⟨_, hresp, hy⟩
  · rcases beginTransaction_ok hr with ⟨_, h0⟩ | ⟨hloc, _⟩ | ⟨hloc, _⟩
    · rcases tmBeginInter_ok h0 with ⟨hnone, _⟩ | ⟨rec', st', hr', hst, rfl, _⟩
      · rw [hrec] at hnone; cases hnone
      · cases hrec.symm.trans hr'
        exact ⟨st', by rw [Led.getS_addS, if_pos rfl], .inl ⟨hreq, hst⟩⟩
    · exact absurd hloc (hne hreq)
    · exact absurd hloc (hne hreq)
  · rcases tmReport_ok hy with ⟨rec', st', hr', hst, rfl, _⟩ | ⟨_, _, _, _, hnone, _⟩
    · cases hrec.symm.trans hr'
      exact ⟨st', by rw [Led.getS_setS, if_pos rfl], .inr ⟨hresp, hst⟩⟩
    · rw [hrec] at hnone; cases hnone

theorem handleIBTP_rec {env : Env} {l : Led} {i : Ibtp} {ck : Checked} {r : Led × String}
    (hck : checkIBTP env l i = .ok ck) (h : handleIBTP env l i = .ok r) (t : TxId) :
    r.1.getS (.txRec t) = l.getS (.txRec t) ∨
    (i.typ.isRequest = true ∧ t = { frm := ck.src, to := ck.dst, index := i.index } ∧
      (ck.notice = false ∨ l.getS (.txRec t) = none)) ∨
    (∃ ev st st', recStatus l t = some st ∧ txFsmStep st ev = some st' ∧ recStatus r.1 t = some st') := by
  rcases handleIBTP_rec_full hck h t with e | ⟨ht, ⟨hreq, hn⟩ | ⟨rec, h1, hm⟩⟩
  · exact .inl e
  · exact .inr (.inl ⟨hreq, ht, hn⟩)
  · obtain ⟨st', ev, h3, h2⟩ := hm.step
    exact .inr (.inr ⟨ev, _, st', by rw [recStatus, h1], h3, by rw [recStatus, h2]⟩)

theorem processIBTP_ret (l : Led) (i : Ibtp) (ck : Checked) (c : StatusChange) :
    (processIBTP l i ck c).2 = if ck.isBatch then "batch_ibtp" else if ck.targetErr then "begin_failure" else "" := by
  unfold processIBTP
  cases (i.typ.isRequest && !ck.notice) <;> rfl

end Bxh.Exec
