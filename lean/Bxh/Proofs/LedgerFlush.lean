import Bxh.Proofs.LedgerRollback
import Bxh.Proofs.LedgerViews
/-!
# Reads below the block's objects: across `FlushDirtyData`, `Commit`, a reopen and cache evictions

After a flush the block's account objects are gone (`accounts := []`); a read is what the layers below answer (`below`): the account
cache, where `AccountCache.add` laid the dirty sets of the flushed accounts over what it held (`cacheFold_look`), else the database,
where `Commit` then writes the changed keys (`commits_state_at`).

For a ledger whose account objects are coherent (`ObjCoh`: what an object memoised as the committed value of a key is what the layers
below hold, a key is written only after its committed value was memoised) every key of every account reads after the flush what it read
before it (up to nil / empty, which `bytes.Equal` does not tell apart), and the commit changes no read.  Between the commit of one block
and the flush of the next the storage cache agrees with the database (`CacheDb`, which flush + commit re-establish): then evictions and
a reopen change no storage read either.  For balances and nonces the same follows from `InnerDb`, which is a hypothesis here: that a
commit re-establishes it is not proved.
-/
namespace Bxh.Ledger
open Bxh

theorem below_eq (l : L) (a : Addr) (k : String) :
    below l a k = match l.cache.look a k with
      | some cv => cv
      | none => KV.get l.db.state (a, k) := rfl

structure ObjCoh (l : L) : Prop where
  nodup : (l.accounts.map (·.1)).Nodup
  memo : ∀ a acc, KV.get l.accounts a = some acc → ∀ k v, KV.get acc.originState k = some v → v.getD "" = (below l a k).getD ""
  first : ∀ a acc, KV.get l.accounts a = some acc → ∀ k, (KV.get acc.dirtyState k).isSome = true → (KV.get acc.originState k).isSome = true
  dnodup : ∀ a acc, KV.get l.accounts a = some acc → (acc.dirtyState.map (·.1)).Nodup

/-- `ObjCoh` for one account object: its origin memo mirrors the layers below the objects (`below`), not the database as in `Coh` -/
structure AcctCoh (l : L) (a : Addr) (acc : Acct) : Prop where
  memo : ∀ k v, KV.get acc.originState k = some v → v.getD "" = (below l a k).getD ""
  first : ∀ k, (KV.get acc.dirtyState k).isSome = true → (KV.get acc.originState k).isSome = true
  dnodup : (acc.dirtyState.map (·.1)).Nodup

theorem ObjCoh.acct {l : L} (hC : ObjCoh l) {a : Addr} {acc : Acct} (h : KV.get l.accounts a = some acc) : AcctCoh l a acc :=
  ⟨hC.memo a acc h, hC.first a acc h, hC.dnodup a acc h⟩

theorem AcctCoh.of_empty (l : L) (a : Addr) {acc : Acct} (h : acc.dirtyState = [] ∧ acc.originState = []) : AcctCoh l a acc :=
  ⟨fun k v hk => (by rw [h.2] at hk; cases hk), fun k hk => (by rw [h.1] at hk; cases hk), by rw [h.1]; exact List.nodup_nil⟩

theorem objOf_coh {l : L} (hC : ObjCoh l) (a : Addr) : AcctCoh l a (objOf l a) := by
  unfold objOf viewAcct
  cases hg : KV.get l.accounts a with
  | some acc => exact hC.acct hg
  | none =>
    cases hl : loadAcct l a with
    | some acc => exact AcctCoh.of_empty l a (loadAcct_states hl)
    | none => exact AcctCoh.of_empty l a ⟨rfl, rfl⟩

theorem AcctCoh.congr {l l' : L} (hc : l'.cache = l.cache) (hd : l'.db = l.db) {a : Addr} {acc : Acct} (h : AcctCoh l a acc) :
    AcctCoh l' a acc :=
  ⟨fun k v hk => by rw [below_congr hc hd]; exact h.memo k v hk, h.first, h.dnodup⟩

theorem AcctCoh.rd_unwritten {l : L} {a : Addr} {acc : Acct} (h : AcctCoh l a acc) {k : String} (hd : KV.get acc.dirtyState k = none) :
    (rdAcct l a k acc).getD "" = (below l a k).getD "" := by
  unfold rdAcct
  rw [hd]
  cases ho : KV.get acc.originState k with
  | some ov => exact h.memo k ov ho
  | none => rfl

theorem AcctCoh.rd_unchanged {l : L} {a : Addr} {acc : Acct} (h : AcctCoh l a acc) {k : String} {v : Bytes}
    (hd : KV.get acc.dirtyState k = some v) (hch : chg acc.originState (k, v) = false) : v.getD "" = (below l a k).getD "" := by
  obtain ⟨ov, ho⟩ := Option.isSome_iff_exists.mp (h.first k (by rw [hd]; rfl))
  rw [← h.memo k ov ho]
  unfold chg beq at hch
  rw [ho] at hch
  exact (by simpa using hch : ov.getD "" = v.getD "").symm

theorem memo_coh {l : L} {a : Addr} {acc : Acct} (h : AcctCoh l a acc) (k : String) :
    AcctCoh l a (memo l a k acc) ∧ (KV.get (memo l a k acc).originState k).isSome = true := by
  rcases memo_cases l a k acc with ⟨e, hs⟩ | ⟨_, e⟩
  · rw [e]; exact ⟨h, hs.elim (h.first k) id⟩
  · rw [e]
    refine ⟨⟨fun k' v hk => ?_, fun k' hk => ?_, h.dnodup⟩, by rw [KV.get_set_eq]; rfl⟩
    · rw [KV.get_set] at hk
      split at hk
      · rename_i hkk; cases hk; rw [hkk]
      · exact h.memo k' v hk
    · rw [KV.get_set]
      split
      · rfl
      · exact h.first k' hk

theorem AcctCoh.setDirty {l : L} {a : Addr} {acc : Acct} (h : AcctCoh l a acc) (k : String) (v : Bytes)
    (hk : (KV.get acc.originState k).isSome = true) : AcctCoh l a { acc with dirtyState := KV.set acc.dirtyState k v } :=
  ⟨h.memo, fun k' hd => by
    rw [KV.get_set] at hd
    split at hd
    · rename_i e; rw [← e]; exact hk
    · exact h.first k' hd, KV.set_nodup _ k v h.dnodup⟩

theorem ObjCoh.of_no_objects (l : L) (h : l.accounts = []) : ObjCoh l := by
  refine ⟨by rw [h]; exact List.nodup_nil, ?_, ?_, ?_⟩ <;> (intro a acc hg; rw [h] at hg; cases hg)

theorem ObjCoh.of_accts {l : L} (hn : (l.accounts.map (·.1)).Nodup) (h : ∀ a acc, KV.get l.accounts a = some acc → AcctCoh l a acc) :
    ObjCoh l :=
  ⟨hn, fun a acc hg => (h a acc hg).memo, fun a acc hg => (h a acc hg).first, fun a acc hg => (h a acc hg).dnodup⟩

theorem ObjCoh.putObj {l r : L} {a : Addr} {obj : Acct} {cs : List Change} (hC : ObjCoh l) (hP : PutObj l a obj cs r)
    (ho : AcctCoh l a obj) : ObjCoh r := by
  refine ObjCoh.of_accts (hP.nodup hC.nodup) (fun b acc hg => AcctCoh.congr hP.cache hP.db ?_)
  rw [hP.get] at hg
  split at hg
  · rename_i hb; cases hg; rw [← hb]; exact ho
  · exact hC.acct hg

theorem ObjCoh.innerWrite {l : L} (hC : ObjCoh l) (a : Addr) (f : Inner → Inner) (c : Change) : ObjCoh (innerWrite l a f c) :=
  have h := objOf_coh hC a
  hC.putObj (innerWrite_put l a f c) ⟨h.memo, h.first, h.dnodup⟩

theorem ObjCoh.applyWrite {l : L} (hC : ObjCoh l) (w : Write) : ObjCoh (applyWrite l w) := by
  cases w with
  | storage a k v =>
    -- the object written to is the coherent one the view showed, with the key memoised by the read and then written
    obtain ⟨hm, hseen⟩ := memo_coh (objOf_coh hC a) k
    exact hC.putObj (setState_put l a k v) (hm.setDirty k v hseen)
  | balance a v => show ObjCoh (setBalance l a v); rw [setBalance_eq]; exact hC.innerWrite a _ _
  | nonce a v => show ObjCoh (setNonce l a v); rw [setNonce_eq]; exact hC.innerWrite a _ _

theorem ObjCoh.applyWrites {l : L} (hC : ObjCoh l) (ws : List Write) : ObjCoh (applyWrites ws l) :=
  foldl_inv (P := ObjCoh) (fun _ w h => h.applyWrite w) ws hC

theorem ObjCoh.writes {l : L} (hC : ObjCoh l) (ws : List SWrite) : ObjCoh (writes ws l) :=
  writes_eq ws l ▸ hC.applyWrites _

theorem not_flushed {l : L} (hnd : (l.accounts.map (·.1)).Nodup) {a : Addr}
    (hg : ∀ acc, KV.get l.accounts a = some acc → isModified (loadOrigin l a acc) = false) : ∀ p ∈ flushItems l, p.1 ≠ a := by
  intro p hp e
  obtain ⟨acc, hacc, he, hm⟩ := mem_flushItems.mp (show (p.1, p.2) ∈ flushItems l from hp)
  rw [e] at hacc he
  rw [he, hg acc (KV.get_of_mem hnd hacc)] at hm
  cases hm

theorem flush_look_unmodified (H : RootPre → String) (l : L) (hnd : (l.accounts.map (·.1)).Nodup) {a : Addr}
    (hg : ∀ acc, KV.get l.accounts a = some acc → isModified (loadOrigin l a acc) = false) (k : String) :
    (flush H l).1.cache.look a k = l.cache.look a k :=
  cacheAdd_local.foldl_other a (flushItems l) l.cache (not_flushed hnd hg) k

theorem flush_look_modified (H : RootPre → String) (l : L) (hnd : (l.accounts.map (·.1)).Nodup) {a : Addr} {acc : Acct}
    (hg : KV.get l.accounts a = some acc) (hm : isModified (loadOrigin l a acc) = true) (k : String) :
    (flush H l).1.cache.look a k = (KV.last acc.dirtyState k).or (l.cache.look a k) := by
  rw [flush_cache, cacheFold_look _ _ (flushItems_nodup hnd) (mem_flushItems.mpr ⟨acc, KV.mem_of_get hg, rfl, hm⟩) k,
    loadOrigin_dirtyState]

theorem chg_of_unmodified {l : L} {a : Addr} {acc : Acct} (hm : isModified (loadOrigin l a acc) = false) {k : String} {v : Bytes}
    (hd : KV.get acc.dirtyState k = some v) : chg acc.originState (k, v) = false := by
  have hck : changedKeys acc = [] := by
    have := (Bool.or_eq_false_iff.mp hm).2
    rw [changedKeys_loadOrigin] at this
    simpa using this
  cases hch : chg acc.originState (k, v) with
  | false => rfl
  | true =>
    have : (k, v) ∈ changedKeys acc := by rw [changedKeys_eq]; exact List.mem_filter.mpr ⟨KV.mem_of_get hd, hch⟩
    rw [hck] at this
    cases this

theorem flush_keeps_reads (H : RootPre → String) (l : L) (hC : ObjCoh l) (a : Addr) (k : String) :
    (peekState (flush H l).1 a k).getD "" = (peekState l a k).getD "" := by
  rw [peekState_no_objects (flush H l).1 rfl a k, below_eq]
  cases hg : KV.get l.accounts a with
  | none =>
    rw [flush_look_unmodified H l hC.nodup (fun acc h => by rw [hg] at h; cases h), peekState_not_object l a k hg]; rfl
  | some acc =>
    have hA := hC.acct hg
    rw [peekState_of_present hg]
    cases hm : isModified (loadOrigin l a acc) with
    | true =>
      rw [flush_look_modified H l hC.nodup hg hm, KV.last_of_nodup hA.dnodup]
      cases hd : KV.get acc.dirtyState k with
      | some v => unfold rdAcct; rw [hd]; rfl
      | none => rw [hA.rd_unwritten hd]; rfl
    | false =>
      rw [flush_look_unmodified H l hC.nodup (fun acc' h => by rw [hg] at h; cases h; exact hm)]
      show (below l a k).getD "" = _
      cases hd : KV.get acc.dirtyState k with
      | some v => rw [← hA.rd_unchanged hd (chg_of_unmodified hm hd)]; unfold rdAcct; rw [hd]
      | none => rw [hA.rd_unwritten hd]

/-- every storage value the account cache holds is the value the database holds (up to nil / empty): what holds between the commit
of one block and the flush of the next -/
def CacheDb (l : L) : Prop :=
  ∀ a m k v, KV.get l.cache.state a = some m → KV.get m k = some v → v.getD "" = ((KV.get l.db.state (a, k) : Bytes)).getD ""

theorem CacheDb.look {l : L} (h : CacheDb l) {a : Addr} {k : String} {v : Bytes} (hv : l.cache.look a k = some v) :
    v.getD "" = ((KV.get l.db.state (a, k) : Bytes)).getD "" := by
  obtain ⟨m, hm, hk⟩ := Option.bind_eq_some_iff.mp hv
  exact h a m k v hm hk

theorem CacheDb.of_look {l : L} (h : ∀ a k v, l.cache.look a k = some v → v.getD "" = ((KV.get l.db.state (a, k) : Bytes)).getD "") :
    CacheDb l :=
  fun a m k v hm hk => h a k v (by unfold Cache.look; rw [hm]; exact hk)

theorem below_of_cacheDb (l : L) (h : CacheDb l) (a : Addr) (k : String) :
    (below l a k).getD "" = ((KV.get l.db.state (a, k) : Bytes)).getD "" := by
  rw [below_eq]
  cases hv : l.cache.look a k with
  | none => rfl
  | some v => exact h.look hv

theorem reads_agree_of_cacheDb (l l' : L) (hacc : l'.accounts = l.accounts) (hdb : l'.db = l.db)
    (h : CacheDb l) (h' : CacheDb l') (a : Addr) (k : String) :
    (peekState l' a k).getD "" = (peekState l a k).getD "" := by
  have hb : (below l' a k).getD "" = (below l a k).getD "" := by
    rw [below_of_cacheDb l' h' a k, below_of_cacheDb l h a k, hdb]
  cases hg : KV.get l.accounts a with
  | some acc =>
    rw [peekState_of_present (by rw [hacc]; exact hg), peekState_of_present hg]
    unfold rdAcct
    cases KV.get acc.dirtyState k with
    | some v => rfl
    | none =>
      cases KV.get acc.originState k with
      | some v => rfl
      | none => exact hb
  | none =>
    rw [peekState_not_object l' a k (by rw [hacc]; exact hg), peekState_not_object l a k hg]
    exact hb

theorem CacheDb.evictAcct {l : L} (h : CacheDb l) (a : Addr) :
    CacheDb { l with cache := { l.cache with state := KV.erase l.cache.state a } } :=
  fun b m k v hm hk => h b m k v (KV.get_of_get_erase hm) hk

theorem CacheDb.evictKey {l : L} (h : CacheDb l) (a : Addr) (m0 : KV String Bytes) (k0 : String) (hm0 : KV.get l.cache.state a = some m0) :
    CacheDb { l with cache := { l.cache with state := KV.set l.cache.state a (KV.erase m0 k0) } } := by
  intro b m k v hm hk
  rw [KV.get_set] at hm
  split at hm
  · rename_i e
    subst e
    cases hm
    exact h a m0 k v hm0 (KV.get_of_get_erase hk)
  · exact h b m k v hm hk

theorem commit_state_unmodified (H : RootPre → String) {l l1 : L} {h : Nat} (hnd : (l.accounts.map (·.1)).Nodup)
    (hc : commit (flush H l).1 h (flush H l).2 = some l1) {a : Addr}
    (hg : ∀ acc, KV.get l.accounts a = some acc → isModified (loadOrigin l a acc) = false) (k : String) :
    ((KV.get l1.db.state (a, k) : Bytes)).getD "" = ((KV.get l.db.state (a, k) : Bytes)).getD "" := by
  rw [(commit_state_cache hc).1]
  exact (commits_frame (flushItems l) l.db a (not_flushed hnd hg)).2.2 k

theorem commit_state_modified (H : RootPre → String) {l l1 : L} {h : Nat} (hnd : (l.accounts.map (·.1)).Nodup)
    (hc : commit (flush H l).1 h (flush H l).2 = some l1) {a : Addr} {acc : Acct}
    (hg : KV.get l.accounts a = some acc) (hm : isModified (loadOrigin l a acc) = true) (k : String) :
    ((KV.get l1.db.state (a, k) : Bytes)).getD "" =
      ((KV.last (changedKeys acc) k).getD (KV.get l.db.state (a, k))).getD "" := by
  rw [(commit_state_cache hc).1]
  rw [← changedKeys_loadOrigin l a acc]
  exact commits_state_at (flushItems l) l.db (flushItems_nodup hnd) (mem_flushItems.mpr ⟨acc, KV.mem_of_get hg, rfl, hm⟩) k

theorem modified_or_not (l : L) (a : Addr) :
    (∃ acc, KV.get l.accounts a = some acc ∧ isModified (loadOrigin l a acc) = true) ∨
    (∀ acc, KV.get l.accounts a = some acc → isModified (loadOrigin l a acc) = false) := by
  cases hg : KV.get l.accounts a with
  | none => exact Or.inr (fun acc e => nomatch e)
  | some acc =>
    cases hm : isModified (loadOrigin l a acc) with
    | true => exact Or.inl ⟨acc, rfl, hm⟩
    | false => exact Or.inr (fun acc' e => by cases e; exact hm)

theorem commit_establishes_cacheDb (H : RootPre → String) (l l1 : L) (h : Nat) (hC : ObjCoh l) (hD : CacheDb l)
    (hc : commit (flush H l).1 h (flush H l).2 = some l1) : CacheDb l1 := by
  refine CacheDb.of_look (fun a k v hv => ?_)
  rw [(commit_state_cache hc).2] at hv
  rcases modified_or_not l a with ⟨acc, hg, hm⟩ | hg
  · have hA := hC.acct hg
    rw [flush_look_modified H l hC.nodup hg hm, KV.last_of_nodup hA.dnodup] at hv
    rw [commit_state_modified H hC.nodup hc hg hm, last_changedKeys_get acc hA.dnodup]
    cases hd : KV.get acc.dirtyState k with
    | none =>
      -- not written by the block: the cache entry is the old one, the commit does not touch the key
      rw [hd] at hv
      exact hD.look hv
    | some w =>
      -- written by the block: the cache holds the written value; the database too, unless it held the same bytes already
      rw [hd] at hv
      cases hv
      show _ = ((if chg acc.originState (k, v) then some v else none).getD (KV.get l.db.state (a, k))).getD ""
      cases hch : chg acc.originState (k, v) with
      | true => rfl
      | false => rw [hA.rd_unchanged hd hch, below_of_cacheDb l hD a k]; rfl
  · rw [flush_look_unmodified H l hC.nodup hg] at hv
    rw [commit_state_unmodified H hC.nodup hc hg]
    exact hD.look hv

/-- after the flush of a block the account cache holds every value the block wrote; the commit moves them into the database and leaves
the cache alone -/
theorem commit_keeps_reads (H : RootPre → String) (l l1 : L) (h : Nat) (hC : ObjCoh l)
    (hc : commit (flush H l).1 h (flush H l).2 = some l1) (hacc : l1.accounts = []) (a : Addr) (k : String) :
    (peekState l1 a k).getD "" = (peekState (flush H l).1 a k).getD "" := by
  rw [peekState_no_objects l1 hacc, peekState_no_objects (flush H l).1 rfl, below_eq, below_eq, (commit_state_cache hc).2]
  cases hb : (flush H l).1.cache.look a k with
  | some cv => rfl
  | none =>
    show ((KV.get l1.db.state (a, k) : Bytes)).getD "" = ((KV.get l.db.state (a, k) : Bytes)).getD ""
    rcases modified_or_not l a with ⟨acc, hg, hm⟩ | hg
    · -- the key was not written by the block: a written key is in the cache
      have hA := hC.acct hg
      rw [flush_look_modified H l hC.nodup hg hm, KV.last_of_nodup hA.dnodup] at hb
      rw [commit_state_modified H hC.nodup hc hg hm, last_changedKeys_get acc hA.dnodup]
      cases hd : KV.get acc.dirtyState k with
      | none => rfl
      | some w => rw [hd] at hb; cases hb
    · exact commit_state_unmodified H hC.nodup hc hg k

def InnerDb (l : L) : Prop := ∀ a ia, KV.get l.cache.inner a = some ia → KV.get l.db.acct a = some ia

theorem belowInner_of_innerDb {l : L} (h : InnerDb l) (a : Addr) : belowInner l a = (KV.get l.db.acct a).getD {} := by
  unfold belowInner
  cases hc : KV.get l.cache.inner a with
  | none => rfl
  | some ia => rw [h a ia hc]; rfl

theorem inner_agree_of_innerDb (l l' : L) (hacc : l'.accounts = l.accounts) (hdb : l'.db = l.db)
    (h : InnerDb l) (h' : InnerDb l') (a : Addr) : peekInner l' a = peekInner l a := by
  cases hg : KV.get l.accounts a with
  | some acc => rw [peekInner_of_present (by rw [hacc]; exact hg), peekInner_of_present hg]
  | none =>
    rw [peekInner_not_object l' a (by rw [hacc]; exact hg), peekInner_not_object l a hg, belowInner_of_innerDb h',
      belowInner_of_innerDb h, hdb]

theorem InnerDb.evict {l : L} (h : InnerDb l) (a : Addr) :
    InnerDb { l with cache := { l.cache with inner := KV.erase l.cache.inner a } } :=
  fun b ia hb => h b ia (KV.get_of_get_erase hb)

end Bxh.Ledger
