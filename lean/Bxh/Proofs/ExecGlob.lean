import Bxh.Proofs.ExecSteps
/-!
# Who writes one-to-many records (`global-tx-<gid>`)

While an IBTP is handled only `BeginMultiTXs` (for the group the request declares: `tmBeginMulti_own`, `tmBeginMulti_other`) and
`Report` (for the group the reported child belongs to) write a `.glob` key.  The state of a group that has left BEGIN without
success is "dead" (`Status.dead`, `DeadGroup`); that a dead group stays dead is C05's.
-/
namespace Bxh.Exec

def globState (l : Led) (gid : GId) : Option Status :=
  match l.getS (.glob gid) with
  | some (.glob g) => some g.state
  | _ => none

/-- the group has failed or timed out -/
def Status.dead (s : Status) : Bool := s != .begin && s != .success

/-- what the history theorems of C05 carry along -/
def DeadGroup (gid : GId) (l : Led) : Prop := ∃ st, globState l gid = some st ∧ st.dead = true

theorem globState_congr {l l' : Led} (gid : GId) (h : l'.getS (.glob gid) = l.getS (.glob gid)) : globState l' gid = globState l gid := by
  unfold globState; rw [h]

theorem DeadGroup.congr {gid : GId} {l l' : Led} (d : DeadGroup gid l) (h : l'.getS (.glob gid) = l.getS (.glob gid)) :
    DeadGroup gid l' := by
  obtain ⟨st, h1, h2⟩ := d; exact ⟨st, (globState_congr gid h).trans h1, h2⟩

theorem notifySrcDst_glob (env : Env) (l : Led) (src dst : SvcId) (c : StatusChange) (b : Bool) (gid : GId) :
    (notifySrcDst env l src dst c b).getS (.glob gid) = l.getS (.glob gid) := (notifySrcDst_writes ..).getS

theorem processIBTP_glob (l : Led) (i : Ibtp) (ck : Checked) (c : StatusChange) (gid : GId) :
    (processIBTP l i ck c).1.getS (.glob gid) = l.getS (.glob gid) := (processIBTP_writes ..).getS

theorem globState_some {l : Led} {gid : GId} {st : Status} (h : globState l gid = some st) :
    ∃ g, l.getS (.glob gid) = some (.glob g) ∧ g.state = st := by
  unfold globState at h
  split at h
  · rename_i g hg; exact ⟨g, hg, Option.some.inj h⟩
  · cases h

theorem globState_of {l : Led} {gid : GId} {g : Global} (h : l.getS (.glob gid) = some (.glob g)) : globState l gid = some g.state := by
  unfold globState; rw [h]

theorem tmBeginMulti_own {l : Led} {cur : Nat} {gid : GId} {id : TxId} {t : Nat} {f : Bool} {n : Nat} {l' : Led} {c : StatusChange}
    (e : tmBeginMulti l cur gid id t f n = .ok (l', c)) :
    ∃ g', l'.getS (.glob gid) = some (.glob g') ∧ ∀ g, l.getS (.glob gid) = some (.glob g) → GlobBegin id f g g' c := by
  obtain ⟨l0, g', _, rfl, sb⟩ := tmBeginMulti_ok e
  exact ⟨g', by rw [Led.getS_setS, if_neg nofun, Led.getS_setS, if_pos rfl], sb⟩

theorem tmBeginMulti_other {l : Led} {cur : Nat} {gid : GId} {id : TxId} {t : Nat} {f : Bool} {n : Nat} {l' : Led} {c : StatusChange}
    (e : tmBeginMulti l cur gid id t f n = .ok (l', c)) {gid' : GId} (hne : gid' ≠ gid) : l'.getS (.glob gid') = l.getS (.glob gid') := by
  obtain ⟨l0, g', h0, rfl, _⟩ := tmBeginMulti_ok e
  rw [Led.getS_setS, if_neg nofun, Led.getS_setS, if_neg (fun h => hne (Key.glob.inj h).symm)]
  rcases h0 with rfl | rfl | ⟨h, h0⟩
  · rfl
  · exact (tmAddTimeout_writes ..).getS
  · exact (tmRemoveTimeout_writes h0).getS

theorem tmBeginMulti_glob {l : Led} {cur : Nat} {gid : GId} {id : TxId} {t : Nat} {f : Bool} {n : Nat} {r : Led × StatusChange}
    (e : tmBeginMulti l cur gid id t f n = .ok r) (gid' : GId) :
    (gid' ≠ gid → r.1.getS (.glob gid') = l.getS (.glob gid')) ∧
    (∀ g, l.getS (.glob gid) = some (.glob g) → g.state ≠ .begin →
      ∃ g', r.1.getS (.glob gid) = some (.glob g') ∧ g'.state = g.state) := by
  obtain ⟨g', hg', sb⟩ := tmBeginMulti_own e
  refine ⟨tmBeginMulti_other e, fun g hg hnb => ⟨g', hg', ?_⟩⟩
  cases sb g hg with
  | late => rfl
  | fail hb => exact absurd hb hnb
  | join hb => exact absurd hb hnb

theorem tmBegin_glob (l : Led) (cur : Nat) (id : TxId) (t : Nat) (f : Bool) (gid : GId) :
    (tmBegin l cur id t f).1.getS (.glob gid) = l.getS (.glob gid) := (tmBegin_writes ..).getS

theorem tmBeginInter_glob {l : Led} {cur : Nat} {id : TxId} {t : Nat} {x : Ext} {f : Bool} {r : Led × StatusChange}
    (e : tmBeginInter l cur id t x f = .ok r) (gid : GId) : r.1.getS (.glob gid) = l.getS (.glob gid) :=
  (tmBeginInter_writes e).getS

theorem tmChangeMulti_glob {l : Led} {gid : GId} {g : Global} {id : TxId} {typ : Nat} {r : Led × Global}
    (e : tmChangeMulti l gid g id typ = .ok r) (gid' : GId) : r.1.getS (.glob gid') = l.getS (.glob gid') :=
  (tmChangeMulti_writes e).getS

end Bxh.Exec
