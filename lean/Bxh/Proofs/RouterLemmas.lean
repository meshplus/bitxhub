import Bxh.Model.Router
import Bxh.Prelude.Fold
/-!
# What a pier is handed

`deliver_spec`: over maps without duplicate keys (`Keyed`) the router's three passes hand every pier what the block's interchain meta
says for it.  That the executor's maps are such is shown here too.
-/
namespace Bxh.Router
open Bxh Bxh.Exec

/-- Go maps have no duplicate keys; the model's maps are built with `KV.set` -/
def Keyed {β : Type} (m : KV String β) : Prop := (m.map (·.1)).Nodup

theorem pass_get {β : Type} (g : β → Option Wrapper → Wrapper) (l : KV String β) (hl : Keyed l)
    (m0 : KV String Wrapper) (k : String) :
    KV.get (pass g l m0) k = match KV.get l k with
      | some v => some (g v (KV.get m0 k))
      | none => KV.get m0 k := by
  -- a step writes under the key of its item only
  have hloc : KeyLocal (·.1) (fun m (p : String × β) => KV.set m p.1 (g p.2 (KV.get m p.1))) (fun b s t => KV.get s b = KV.get t b) :=
    ⟨fun _ _ => rfl, Eq.trans, fun _ _ _ hb => KV.get_set_ne _ _ _ _ hb⟩
  cases hk : KV.get l k with
  | none => exact hloc.foldl_other k l m0 (KV.get_eq_none_iff.mp hk)
  | some v =>
    obtain ⟨s', h1, h2⟩ := hloc.foldl_at l m0 hl (KV.mem_of_get hk)
    exact h2.trans (by rw [KV.get_set_eq, h1])

theorem keyed_nil {β : Type} : Keyed ([] : KV String β) := List.nodup_nil

theorem keyed_set {β : Type} (m : KV String β) (k : String) (v : β) (h : Keyed m) : Keyed (KV.set m k v) :=
  KV.set_nodup m k v h

theorem counterOf_keyed (idx : Nat) (evs : List Ev) (ctr : KV String (List VIdx)) (h : Keyed ctr) : Keyed (counterOf idx evs ctr) := by
  refine foldl_inv (fun c e hc => ?_) evs h
  cases e with
  | audit => exact hc
  | interchain m => exact foldl_inv (fun c q hc => keyed_set _ _ _ hc) m hc

theorem applyTxs_counter_keyed (cfg : Cfg) (cache : KV (String × String) Svc) (h : Nat) (l : Led) (txs : List (Tx × Bool)) :
    Keyed (applyTxs cfg cache h l txs).counter :=
  foldl_inv (P := fun a : Acc => Keyed a.counter) (fun _ _ ha => counterOf_keyed _ _ _ ha) txs keyed_nil

theorem getTimeoutMap_keyed (cfg : Cfg) (l : Led) (h : Nat) : Keyed (getTimeoutMap cfg l h) := by
  have step : ∀ (acc : Option (KV String (List TId))) (v : TId), (∀ m ∈ acc, Keyed m) → ∀ m ∈ timeoutMapStep cfg l acc v, Keyed m := by
    intro acc v ha m hm
    unfold timeoutMapStep at hm
    split at hm
    · cases hm
    · next m0 =>
      have h0 := ha m0 rfl
      split at hm
      · cases hm; exact keyed_set _ _ _ h0
      · split at hm
        · cases hm
          refine foldl_inv (fun mm p hmm => ?_) _ h0
          split
          · exact keyed_set _ _ _ (keyed_set _ _ _ hmm)
          · exact keyed_set _ _ _ hmm
        · cases hm
  unfold getTimeoutMap
  cases hr : (getTimeoutList l h).foldl (timeoutMapStep cfg l) (some []) with
  | none => exact keyed_nil
  | some m =>
    refine foldl_inv (P := fun acc => ∀ m ∈ acc, Keyed m) step (getTimeoutList l h) ?_ m hr
    rintro _ ⟨⟩; exact keyed_nil

/-- **what a pier is handed is what the block's interchain meta says for it** — its transactions (positions in the block, in the
order of `Counter`), its timed-out ids, its one-to-many notifications; a pier the meta does not mention gets the empty wrapper -/
theorem deliver_spec (o : BlockOut) (hc : Keyed o.counter) (ht : Keyed o.timeoutCounter) (hm : Keyed o.multiCounter) (pier : String) :
    deliver o pier = { txs := KV.getD o.counter pier [], timeouts := KV.getD o.timeoutCounter pier [], multi := KV.getD o.multiCounter pier [] } := by
  unfold deliver classify
  rw [pass_get _ _ hc, pass_get _ _ hm, pass_get _ _ ht]
  unfold KV.getD
  cases KV.get o.counter pier <;> cases KV.get o.multiCounter pier <;> cases KV.get o.timeoutCounter pier <;> rfl

end Bxh.Router
