import Bxh.Model.ProofGroups
/-!
# The proof-verification fan-out records exactly the rejected transactions, each under its own position

What one group records, and that the groups cover the block; the statement itself is `Props.C03.C03_every_position_is_checked`.
-/
namespace Bxh.ProofGroups

theorem mem_groupInvalid {α : Type} (check : α → Option String) (txs : List α) (lo hi k : Nat) (r : String) :
    (k, r) ∈ groupInvalid check txs lo hi ↔ lo ≤ k ∧ k < hi ∧ ∃ tx, txs[k]? = some tx ∧ check tx = some r := by
  simp only [groupInvalid, List.mem_filterMap, Option.map_eq_some_iff, Prod.mk.injEq, Prod.exists,
    List.mem_zipIdx_iff_le_and_getElem?_sub, List.getElem?_drop, List.getElem?_take]
  constructor
  · rintro ⟨tx, i, ⟨hlo, hget⟩, r', hc, rfl, rfl⟩
    rw [Nat.add_sub_cancel' hlo] at hget
    split at hget
    · exact ⟨hlo, ‹_›, tx, hget, hc⟩
    · cases hget
  · rintro ⟨hlo, hhi, tx, hget, hc⟩
    exact ⟨tx, k, ⟨hlo, by rw [Nat.add_sub_cancel' hlo, if_pos hhi]; exact hget⟩, r, hc, rfl, rfl⟩

theorem groupNum_bounds (c n : Nat) (hc : 0 < c) (hn : n ≠ 0) : 1 ≤ groupNum c n ∧ 0 < n / groupNum c n := by
  fun_cases groupNum c n with
  | case1 h => exact ⟨by omega, by rw [Nat.div_self (by omega)]; omega⟩
  | case2 h => exact ⟨by omega, Nat.div_pos (by omega) (by omega)⟩

theorem groupRange_covers {n g k : Nat} (hg : 1 ≤ g) (hL : 0 < n / g) (hk : k < n) :
    ∃ i, i < g ∧ (groupRange n g i).1 ≤ k ∧ k < (groupRange n g i).2 := by
  by_cases hlt : k / (n / g) < g - 1
  · refine ⟨k / (n / g), by omega, ?_⟩
    rw [groupRange, if_neg (by omega)]
    exact ⟨Nat.div_mul_le_self k _, Nat.lt_of_lt_of_eq (Nat.lt_mul_div_succ k hL) (Nat.mul_comm ..)⟩
  · refine ⟨g - 1, by omega, ?_⟩
    rw [groupRange, if_pos rfl]
    exact ⟨(Nat.le_div_iff_mul_le hL).mp (by omega), hk⟩

end Bxh.ProofGroups
