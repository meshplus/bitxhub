import Bxh.Proofs.ExecSteps
/-!
# The request counters of the ordered pairs

`reqCounter`, and what an accepted IBTP does to it: only `ProcessIBTP` writes interchain counters (the footprints of
`ExecSteps.lean`), so the counter of a pair moves exactly when a request of that pair is processed.
-/
namespace Bxh.Exec

/-- the request counter of the ordered pair (s, d): `InterchainCounter[d]` of s's record -/
def reqCounter (l : Led) (s d : SvcId) : Nat := KV.getD (getIC l s).ic d 0

theorem getIC_setIC (l : Led) (s s' : SvcId) (i : IC) : getIC (setIC l s i) s' = if s = s' then i else getIC l s' := by
  unfold getIC setIC
  by_cases h : s = s'
  · subst h; simp
  · simp [h]

theorem getIC_congr {l l' : Led} (s : SvcId) (h : l'.getS (.ic s) = l.getS (.ic s)) : getIC l' s = getIC l s := by
  unfold getIC; rw [h]

theorem reqCounter_congr {l l' : Led} (h : ∀ x, l'.getS (.ic x) = l.getS (.ic x)) (s d : SvcId) :
    reqCounter l' s d = reqCounter l s d := by
  unfold reqCounter; rw [getIC_congr s (h s)]

theorem reqCounter_setIC (l : Led) (x : SvcId) (i : IC) (s d : SvcId) :
    reqCounter (setIC l x i) s d = if x = s then KV.getD i.ic d 0 else reqCounter l s d := by
  unfold reqCounter
  rw [getIC_setIC]
  split <;> rfl

theorem reqCounter_setIC_same (l : Led) (x : SvcId) (i : IC) (h : i.ic = (getIC l x).ic) (s d : SvcId) :
    reqCounter (setIC l x i) s d = reqCounter l s d := by
  rw [reqCounter_setIC]
  split
  · rename_i e; rw [← e, h]; rfl
  · rfl

theorem setDestIC_reqCounter (l : Led) (f t : SvcId) (n : Nat) (ic : IC) (hic : ic.ic = (getIC l f).ic) (s d : SvcId) :
    reqCounter (setDestIC l f t n ic) s d = reqCounter l s d := by
  unfold setDestIC
  rw [reqCounter_setIC_same, reqCounter_setIC_same]
  · exact hic
  · rfl

theorem processIBTP_reqCounter (l : Led) (i : Ibtp) (ck : Checked) (c : StatusChange)
    (hic : ck.ic.ic = (getIC l ck.src).ic) (s d : SvcId) :
    reqCounter (processIBTP l i ck c).1 s d =
      if (i.typ.isRequest && !ck.notice) = true ∧ s = ck.src ∧ d = ck.dst then reqCounter l s d + 1 else reqCounter l s d := by
  unfold processIBTP
  by_cases hreq : (i.typ.isRequest && !ck.notice) = true
  · -- the destination's record keeps its own counters, the index marker is no counter, the source's record gets the advanced one
    rw [if_pos hreq, reqCounter_setIC_same _ _ _ (by exact rfl),   -- `by exact`: the record is read off the goal first
      reqCounter_congr (fun x => (Led.getS_addS _ _ _ _).trans (if_neg (by intro e; cases e))), reqCounter_setIC]
    simp only [hreq, true_and]
    by_cases h1 : ck.src = s
    · subst h1
      rw [if_pos rfl, KV.getD, KV.get_set, hic]
      by_cases h2 : ck.dst = d
      · subst h2; rw [if_pos rfl, if_pos ⟨rfl, rfl⟩]; rfl
      · rw [if_neg h2, if_neg (fun e => h2 e.2.symm)]; rfl
    · rw [if_neg h1, if_neg (fun e => h1 e.1.symm)]
  · rw [if_neg hreq, if_neg (show ¬ ((i.typ.isRequest && !ck.notice) = true ∧ s = ck.src ∧ d = ck.dst) from fun e => hreq e.1)]
    refine (reqCounter_congr (fun x => (Led.getS_setS _ _ _ _).trans (if_neg (by intro e; cases e))) s d).trans ?_
    split
    · split
      · exact foldl_inv (P := fun l' : Led => reqCounter l' s d = reqCounter l s d)
          (fun l' cid h => (setDestIC_reqCounter l' _ _ _ _ rfl s d).trans h) _ rfl
      · exact setDestIC_reqCounter _ _ _ _ _ hic _ _
    · rfl

theorem handleIBTP_reqCounter {env : Env} {l : Led} {i : Ibtp} {ck : Checked} {r : Led × String}
    (hck : checkIBTP env l i = .ok ck) (h : handleIBTP env l i = .ok r) (s d : SvcId) :
    reqCounter r.1 s d =
      if (i.typ.isRequest && !ck.notice) = true ∧ s = ck.src ∧ d = ck.dst then reqCounter l s d + 1 else reqCounter l s d := by
  obtain ⟨ck', l1, c, hck', hb, p, hp, _, hl⟩ := handleIBTP_ok h
  cases hck.symm.trans hck'
  -- the transaction manager and the notification write no counter
  have hf : ∀ x, (notifySrcDst env l1 ck.src ck.dst c ck.isBatch).getS (.ic x) = l.getS (.ic x) := by
    intro x
    rw [(notifySrcDst_writes ..).getS]
    rcases hb with ⟨_, hb⟩ | ⟨_, _, hb⟩
    · exact (beginTransaction_writes hb).getS
    · exact (tmReport_writes hb).getS
  have hic : ck.ic.ic = (getIC (notifySrcDst env l1 ck.src ck.dst c ck.isBatch) ck.src).ic := by
    rw [getIC_congr _ (hf ck.src), (checkIBTP_ok hck).2.2.1]
  have hr : reqCounter r.1 s d = reqCounter p.1 s d := by rcases hl with e | e <;> rw [e] <;> rfl
  rw [hr, ← hp, processIBTP_reqCounter _ i ck c hic s d, reqCounter_congr hf]

end Bxh.Exec
