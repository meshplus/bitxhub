import Bxh.Proofs.ExecStepsT
/-!
# The contract functions leave the one-to-one entries of the timeout lists exactly as they are

`StepsE` is `StepsT` with equality: every write to a `timeout-<d>` key stores a list on which every one-to-one id occurs exactly as
often as on the list stored before.  The transaction manager adds and removes *group* ids only, and Go's in-place removal of an
id takes away occurrences of that id only (`goRemove_spec`).
-/
namespace Bxh.Exec

/-- a timeout list as the code writes it: the emptied list `[none]` ("" split at commas), or a list without empty elements -/
def WFL (lst : List (Option TId)) : Prop := lst = [none] ∨ ∀ x ∈ lst, x ≠ none

def WFV (v : Option Val) : Prop := ∀ lst, v = some (.tlist lst) → WFL lst

inductive StepsE : Led → Led → Prop
  | refl (l : Led) : StepsE l l
  | setO {l l' : Led} (k : Key) (v : Option Val) (hk : ∀ d, k ≠ .timeout d) : StepsE l l' → StepsE l (l'.setS k v)
  | setT {l l' : Led} (d : Nat) (lst : List (Option TId)) (hcnt : ∀ t, lst.count (some (TId.single t)) = listCount l' d t)
      (hwf : WFV (l'.getS (.timeout d)) → WFL lst) :
      StepsE l l' → StepsE l (l'.setS (.timeout d) (some (.tlist lst)))
  | post {l l' : Led} (e : Ev) : StepsE l l' → StepsE l (l'.post e)

theorem StepsE.setIC {l l' : Led} (s : SvcId) (i : IC) (h : StepsE l l') : StepsE l (setIC l' s i) :=
  StepsE.setO _ _ (by intro d e; cases e) h

theorem StepsE.list {l l' : Led} (h : StepsE l l') (d : Nat) :
    (∀ t, listCount l' d t = listCount l d t) ∧ (WFV (l.getS (.timeout d)) → WFV (l'.getS (.timeout d))) := by
  -- both clauses speak of `l'` through what it stores under `timeout-<d>` only
  induction h with
  | refl => exact ⟨fun _ => rfl, id⟩
  | setO k v hk _ ih =>
    unfold listCount
    rw [Led.getS_setS, if_neg (hk d)]
    exact ih
  | setT d' lst hcnt hwf _ ih =>
    unfold listCount
    rw [Led.getS_setS]
    by_cases hd : d' = d
    · subst hd
      rw [if_pos rfl]
      exact ⟨fun t => (hcnt t).trans (ih.1 t), fun h0 _ e => by cases e; exact hwf (ih.2 h0)⟩
    · rw [if_neg (fun e => hd (Key.timeout.inj e))]
      exact ih
  | post e _ ih => exact ih

theorem StepsE.count {l l' : Led} (h : StepsE l l') (d : Nat) (t : TxId) : listCount l' d t = listCount l d t := (h.list d).1 t

theorem StepsE.wf {l l' : Led} (h : StepsE l l') (h0 : ∀ d, WFV (l.getS (.timeout d))) : ∀ d, WFV (l'.getS (.timeout d)) :=
  fun d => (h.list d).2 (h0 d)

theorem StepsE.stepsT {l l' : Led} (h : StepsE l l') : StepsT l l' := by
  induction h with
  | refl => exact .refl _
  | setO k v hk _ ih => exact .setO k v hk ih
  | setT d lst hcnt _ _ ih => exact .setT d lst (fun t => Nat.le_of_eq (hcnt t)) ih
  | post e _ ih => exact .post e ih

theorem normList_wf (r : List (Option TId)) (h : ∀ x ∈ r, x ≠ none) : WFL (normList r) := by
  unfold normList
  split
  · exact Or.inl rfl
  · exact Or.inr h

/-- the stored list as the code reads it (an absent key reads as the emptied list `[none]`) -/
def curList (v : Option Val) : List (Option TId) :=
  match v with
  | some (.tlist lst) => lst
  | _ => [none]

theorem curList_count (l : Led) (d : Nat) (t : TxId) : (curList (l.getS (.timeout d))).count (some (TId.single t)) = listCount l d t := by
  unfold curList listCount
  cases l.getS (.timeout d) with
  | none => simp
  | some v =>
    cases v <;> simp

theorem wfv_iff (v : Option Val) : WFV v ↔ WFL (curList v) := by
  refine ⟨fun h => ?_, fun h lst e => by subst e; exact h⟩
  unfold curList
  split
  · exact h _ rfl
  · exact Or.inl rfl

/-- `addToTimeoutList` of the transaction manager and `addTimeoutList` of the block bookkeeping alike: the new entries are appended
to the stored list, and take the place of an emptied one -/
def appendTo (cur ids : List (Option TId)) : List (Option TId) := if cur == [none] then ids else cur ++ ids

theorem count_appendTo (cur ids : List (Option TId)) (y : TId) :
    (appendTo cur ids).count (some y) = cur.count (some y) + ids.count (some y) := by
  unfold appendTo
  split
  · rename_i hn; rw [eq_of_beq hn]; exact (Nat.zero_add _).symm
  · exact List.count_append

theorem wfl_appendTo {cur ids : List (Option TId)} (h : WFL cur) (hids : ∀ x ∈ ids, x ≠ none) : WFL (appendTo cur ids) := by
  unfold appendTo
  split
  · exact .inr hids
  · rename_i hn
    exact .inr fun x hx => (List.mem_append.mp hx).elim (h.elim (fun e => absurd (e ▸ beq_self_eq_true _) hn) (· x)) (hids x)

end Bxh.Exec
