import Bxh.Proofs.ExecSupply
/-!
# From one handled IBTP to one transaction of a block

`applyTx` wraps `applyBxh` (the IBTP / transfer / contract call) into the fee step and the revert of a transaction that
cannot pay.  Seen through storage reads alone (`TxEffect`), a transaction does one of three things: nothing; what
`handleIBTP` did (possibly with the audit flag off, the audit-event failure path); what `applyBvm` did.
The projections of `execBlock` are equations to rewrite with: left to unfolding, `execBlock` is slow to check.
-/
namespace Bxh.Exec
open Bxh

/-- every transaction of a block runs in an environment of its own, while an invariant is stated at one environment and reads no
more of it than this -/
def SameHub (e0 env : Env) : Prop := env.cache = e0.cache ∧ env.cfg.bxh = e0.cfg.bxh

theorem SameHub.trans {e0 e1 e2 : Env} (h1 : SameHub e0 e1) (h2 : SameHub e1 e2) : SameHub e0 e2 :=
  ⟨h2.1.trans h1.1, h2.2.trans h1.2⟩

/-- what a transaction does to storage and what its receipt says of it (`ok`): the receipt of an IBTP transaction is a success only
if `HandleIBTP` succeeded, in the transaction's own environment, and its effects were kept -/
inductive TxEffect (env : Env) (l0 : Led) (tx : Tx) (res : Led) (ok : Bool) : Prop
  | nothing (hget : ∀ k, res.getS k = l0.getS k) (hfail : ∀ s i p, tx = .ibtp s i p → ok = false) : TxEffect env l0 tx res ok
  | ibtp (s : String) (i : Ibtp) (p : ProofKind) (env' : Env) (r : Led × String)
      (htx : tx = .ibtp s i p) (hub : SameHub env env') (hheight : env'.height = env.height)
      (hrun : handleIBTP env' l0 i = .ok r) (hget : ∀ k, res.getS k = r.1.getS k) (henv : ok = true → env' = env) :
      TxEffect env l0 tx res ok
  | bvm (s c m : String) (args : List Arg) (r : Led × String)
      (htx : tx = .bvm s c m args) (hrun : applyBvm env l0 c m args = .ok r) (hget : ∀ k, res.getS k = r.1.getS k) :
      TxEffect env l0 tx res ok

/-- the only modelled error that is raised after effects were applied: the audit information of
a party cannot be read (its interchain record is missing) -/
def auditHole (env : Env) (l0 : Led) (tx : Tx) : Prop :=
  ∃ s i p, tx = .ibtp s i p ∧ handleIBTP env l0 i = .error "2080000!"

/-- the body of a transaction (`applyBxhTransaction`) -/
inductive Body (env : Env) (l0 : Led) (tx : Tx) (l1 : Led) (res : Except String String) : Prop
  /-- rejected before execution, refused by the contract, or reverted: nothing is written -/
  | kept (e : String) (hled : l1 = l0) (hres : res = .error e) : Body env l0 tx l1 res
  | ibtp (s : String) (i : Ibtp) (p : ProofKind) (ret : String)
      (htx : tx = .ibtp s i p) (hrun : handleIBTP env l0 i = .ok (l1, ret)) (hres : res = .ok ret) : Body env l0 tx l1 res
  /-- the audit-event failure, raised after all effects: an error result on the ledger of the successful path -/
  | hole (s : String) (i : Ibtp) (p : ProofKind) (ret : String)
      (htx : tx = .ibtp s i p) (herr : handleIBTP env l0 i = .error "2080000!")
      (hrun : handleIBTP { env with cfg := { env.cfg with audit := false } } l0 i = .ok (l1, ret)) (hres : res = .error "2080000") :
      Body env l0 tx l1 res
  | xfer (f t : String) (amt : Option Int)
      (htx : tx = .xfer f t amt) (hrun : transfer l0 f t (amt.getD 0) = .ok l1) (hres : res = .ok "") : Body env l0 tx l1 res
  | bvm (s c m : String) (args : List Arg) (ret : String)
      (htx : tx = .bvm s c m args) (hrun : applyBvm env l0 c m args = .ok (l1, ret)) (hres : res = .ok ret) : Body env l0 tx l1 res

theorem applyBxh_body (env : Env) (l0 : Led) (tx : Tx) (inv : Option String) (hj : l0.journal = []) :
    Body env l0 tx (applyBxh env l0 tx inv).1 (applyBxh env l0 tx inv).2.1 := by
  unfold applyBxh
  split
  · exact .kept _ rfl rfl
  · split
    · rename_i s i p
      split
      · rename_i hrun; exact .ibtp s i p _ rfl hrun rfl
      · rename_i e herr
        split
        · rename_i he
          rw [beq_iff_eq.mp he] at herr
          split
          · rename_i hrun; exact .hole s i p _ rfl herr hrun rfl
          · exact .kept _ rfl rfl
        · exact .kept _ rfl rfl
    · rename_i f t amt
      split
      · rename_i h; exact .xfer f t amt rfl h rfl
      · exact .kept _ rfl rfl
      · exact .kept _ rfl rfl
    · rename_i s c m args
      split
      · rename_i h; exact .bvm s c m args _ rfl h rfl
      · exact .kept _ (revert_nil l0 _ hj) rfl

namespace Body
variable {env : Env} {l0 l1 : Led} {tx : Tx} {res : Except String String}

theorem steps (b : Body env l0 tx l1 res) : Steps l0 l1 := by
  cases b with
  | kept _ hled => rw [hled]; exact .refl _
  | ibtp _ _ _ _ _ hrun => exact (handleIBTP_writes hrun).steps
  | hole _ _ _ _ _ _ hrun => exact (handleIBTP_writes hrun).steps
  | xfer _ _ _ _ hrun => exact transfer_steps hrun
  | bvm _ _ _ _ _ _ hrun => exact (applyBvm_writes hrun).steps

theorem revert_same (b : Body env l0 tx l1 res) (hj : l0.journal = []) : (l1.revert 0).same l0 := by
  rw [revert_zero]; exact b.steps.faithful (faithful_self _ hj)

theorem error_keeps (b : Body env l0 tx l1 res) {e : String} (he : res = .error e) (hh : ¬ auditHole env l0 tx) : l1 = l0 := by
  cases b with
  | kept _ hled => exact hled
  | hole s i p _ htx herr => exact absurd ⟨s, i, p, htx, herr⟩ hh
  | ibtp _ _ _ _ _ _ hres => rw [hres] at he; cases he
  | xfer _ _ _ _ _ hres => rw [hres] at he; cases he
  | bvm _ _ _ _ _ _ _ hres => rw [hres] at he; cases he

theorem bal (b : Body env l0 tx l1 res) :
    l1.bal = l0.bal ∨ ∃ f t amt, tx = .xfer f t amt ∧ transfer l0 f t (amt.getD 0) = .ok l1 := by
  cases b with
  | kept _ hled => rw [hled]; exact .inl rfl
  | ibtp _ _ _ _ _ hrun => exact .inl (handleIBTP_writes hrun).stepsS.bal
  | hole _ _ _ _ _ _ hrun => exact .inl (handleIBTP_writes hrun).stepsS.bal
  | xfer f t amt htx hrun => exact .inr ⟨f, t, amt, htx, hrun⟩
  | bvm _ _ _ _ _ _ hrun => exact .inl (applyBvm_writes hrun).stepsS.bal

end Body

/-- the ledger a transaction starts on: `applyTransaction` takes its snapshot with journal and events emptied -/
def txStart (l : Led) : Led := { l with journal := [], events := [] }

theorem txStart_getS (l : Led) (k : Key) : (txStart l).getS k = l.getS k := rfl

theorem charged_getS (cfg : Cfg) (l : Led) (s : String) (x : Int) (k : Key) : (charge cfg l s x).finalise.getS k = l.getS k :=
  getS_of_store (by rw [finalise_store, charge_store]) k

theorem charge_keeps_storage {cfg : Cfg} {l0 l l' : Led} {s : String} {x : Int} (hs : l0.same l)
    (e : l' = (charge cfg l0 s x).finalise) (k : Key) : l'.getS k = l.getS k := by
  rw [e]; exact (charged_getS ..).trans (hs.1 k)

theorem charge_keeps_others {cfg : Cfg} {l0 l l' : Led} {s : String} {x : Int} (hs : l0.same l)
    (e : l' = (charge cfg l0 s x).finalise) (a : String) (h1 : a ≠ s) (h2 : a ∉ cfg.admins) : l'.getBal a = l.getBal a := by
  rw [e]
  show (charge cfg l0 s x).getBal a = _
  rw [charge_getBal, if_neg (Ne.symm h1), List.count_eq_zero_of_not_mem h2]
  simpa using hs.2 a

/-- `applyTransaction` around the body: the fee is charged; or it cannot be paid, the body is undone, and the sender is charged all
it holds -/
inductive TxOutcome (env : Env) (tx : Tx) (l1 : Led) (res : Except String String) (o : Led × TxOut) : Prop
  | paid (x : Int) (hnn : 0 ≤ x) (hle : x ≤ l1.getBal tx.sender)
      (hout : o = ((charge env.cfg l1 tx.sender x).finalise,
        { rcpt := mkRcpt res, events := if (mkRcpt res).ok then l1.events else [] })) : TxOutcome env tx l1 res o
  | unpaid (rc : Rcpt) (hfail : rc.ok = false)
      (hout : o = ((charge env.cfg (l1.revert 0) tx.sender ((l1.revert 0).getBal tx.sender)).finalise, { rcpt := rc, events := [] }))
      (hstatus : rc.txStatus = (mkRcpt res).txStatus) : TxOutcome env tx l1 res o

theorem applyTx_outcome (env : Env) (l : Led) (tx : Tx) (inv : Option String) :
    TxOutcome env tx (applyBxh env (txStart l) tx inv).1 (applyBxh env (txStart l) tx inv).2.1 (applyTx env l tx inv) := by
  unfold applyTx
  simp only
  split
  · rename_i l2 hpay
    obtain ⟨hx, rfl⟩ := payGasFee_eq hpay
    exact .paid _ (Int.natCast_nonneg _) hx (by rw [charge_events]; rfl)
  · exact .unpaid _ rfl (by rw [payLeft_eq]; rfl) (by rfl)

namespace TxOutcome
variable {env : Env} {tx : Tx} {l0 l1 : Led} {res : Except String String} {o : Led × TxOut}

theorem of_failed (h : TxOutcome env tx l1 res o) (hfail : o.2.rcpt.ok = false) (hrev : (l1.revert 0).same l0)
    (hk : ∀ e, res = .error e → l1 = l0) :
    ∃ l x, l.same l0 ∧ o.1 = (charge env.cfg l tx.sender x).finalise := by
  cases h with
  | paid x _ _ hout =>
    rw [hout] at hfail ⊢
    cases res with
    | ok _ => cases hfail
    | error e' => exact ⟨l1, x, by rw [hk e' rfl]; exact Led.same_refl _, rfl⟩
  | unpaid rc _ hout => rw [hout]; exact ⟨_, _, hrev, rfl⟩

end TxOutcome

theorem applyTx_effect (env : Env) (l : Led) (tx : Tx) (inv : Option String) :
    TxEffect env (txStart l) tx (applyTx env l tx inv).1 (applyTx env l tx inv).2.rcpt.ok := by
  have b := applyBxh_body env (txStart l) tx inv rfl
  cases applyTx_outcome env l tx inv with
  | unpaid rc hfail hout =>
    rw [hout]
    exact .nothing (fun k => (charged_getS ..).trans ((b.revert_same rfl).1 k)) (fun _ _ _ _ => hfail)
  | paid x _ _ hout =>
    -- the fee step leaves the storage as the body left it, and the receipt is the body's
    rw [hout]
    cases b with
    | kept _ hled hres => rw [hres]; exact .nothing (fun k => (charged_getS ..).trans (by rw [hled])) (fun _ _ _ _ => rfl)
    | ibtp s i p ret htx hrun => exact .ibtp s i p env (_, ret) htx ⟨rfl, rfl⟩ rfl hrun (charged_getS _ _ _ _) (fun _ => rfl)
    | hole s i p ret htx _ hrun hres =>
      rw [hres]
      exact .ibtp s i p { env with cfg := { env.cfg with audit := false } } (_, ret) htx ⟨rfl, rfl⟩ rfl hrun (charged_getS _ _ _ _) nofun
    | xfer _ _ _ htx hrun =>
      exact .nothing (fun k => (charged_getS ..).trans (getS_of_store (transfer_store hrun) k))
        (fun _ _ _ e => by rw [htx] at e; cases e)
    | bvm s c m args ret htx hrun => exact .bvm s c m args (_, ret) htx hrun (charged_getS _ _ _ _)

theorem applyTx_ok_effect (env : Env) (l : Led) (s : String) (i : Ibtp) (p : ProofKind) (inv : Option String)
    (hok : (applyTx env l (.ibtp s i p) inv).2.rcpt.ok = true) :
    ∃ r, handleIBTP env (txStart l) i = .ok r ∧ ∀ k, (applyTx env l (.ibtp s i p) inv).1.getS k = r.1.getS k := by
  cases applyTx_effect env l (.ibtp s i p) inv with
  | nothing _ hfail => rw [hfail s i p rfl] at hok; cases hok
  | ibtp s' i' p' env' r htx _ _ hrun hget henv => cases htx; exact ⟨r, henv hok ▸ hrun, hget⟩
  | bvm _ _ _ _ _ htx => cases htx

theorem applyTx_writes (env : Env) (l : Led) (tx : Tx) (inv : Option String) :
    ∃ l', Writes (tmKinds ++ [.multi, .ic, .idxReq, .idxRcpt]) (txStart l) l' ∧ ∀ k, (applyTx env l tx inv).1.getS k = l'.getS k := by
  cases applyTx_effect env l tx inv with
  | nothing hget => exact ⟨_, .refl _, hget⟩
  | ibtp _ _ _ _ r _ _ _ hrun hget => exact ⟨r.1, handleIBTP_writes hrun, hget⟩
  | bvm _ _ _ _ r _ hrun hget => exact ⟨r.1, (applyBvm_writes hrun).mono, hget⟩

theorem applyTx_svc (env : Env) (l : Led) (tx : Tx) (inv : Option String) (c sid : String) :
    (applyTx env l tx inv).1.getS (.svc c sid) = l.getS (.svc c sid) := by
  obtain ⟨l', hw, hk⟩ := applyTx_writes env l tx inv
  exact (hk _).trans hw.getS

theorem applyTx_txStatus (env : Env) (l : Led) (tx : Tx) (inv : Option String) :
    (applyTx env l tx inv).2.rcpt.txStatus = (mkRcpt (applyBxh env (txStart l) tx inv).2.1).txStatus := by
  cases applyTx_outcome env l tx inv with
  | paid x _ _ hout => rw [hout]
  | unpaid rc _ hout hstatus => rw [hout]; exact hstatus

theorem applyTx_failed_of_error {env : Env} {l : Led} {tx : Tx} {inv : Option String} {e : String}
    (he : (applyBxh env (txStart l) tx inv).2.1 = .error e) : (applyTx env l tx inv).2.rcpt.ok = false := by
  cases applyTx_outcome env l tx inv with
  | paid x _ _ hout => rw [hout, he]; rfl
  | unpaid rc hfail hout => rw [hout]; exact hfail

end Bxh.Exec

namespace Bxh.Props.C08
open Bxh Bxh.Exec

/-- the step of the fold that `applyTxs` is (`C08.applyTxs_eq_foldl`); C08's statements name it, the loop lemmas below are about it -/
def stepAcc (cfg : Cfg) (cache : KV (String × String) Svc) (h : Nat) (a : Acc) (p : Tx × Bool) : Acc :=
  let env : Env := { cfg := cfg, cache := cache, height := h, txIndex := a.idx }
  let inv := if !p.2 then some "bad-sig" else match p.1 with
    | .ibtp _ i pk => proofVerdict cfg i pk
    | _ => none
  let r := applyTx env a.led p.1 inv
  { led := r.1, idx := a.idx + 1, rcpts := a.rcpts ++ [r.2.rcpt], counter := counterOf a.idx r.2.events a.counter }

end Bxh.Props.C08

namespace Bxh.Exec
open Bxh
open Bxh.Props.C08 (stepAcc)

/-- the loop invariant of the serial loop.  Of a transaction's environment only the block's configuration, cache and height matter -/
theorem applyTxs_fold (cfg : Cfg) (cache : KV (String × String) Svc) (hgt : Nat) (G : Tx → Prop) (Φ : Led → List (Tx × Rcpt) → Prop)
    (hstep : ∀ env l zs tx inv, env.cfg = cfg → env.cache = cache → env.height = hgt → G tx → Φ l zs →
      Φ (applyTx env l tx inv).1 (zs ++ [(tx, (applyTx env l tx inv).2.rcpt)]))
    (l : Led) (h0 : Φ l []) (txs : List (Tx × Bool)) (hg : ∀ p ∈ txs, G p.1) :
    Φ (applyTxs cfg cache hgt l txs).led ((txs.map (·.1)).zip (applyTxs cfg cache hgt l txs).rcpts) := by
  -- generalised over the accumulator: `pre` are the transactions behind the receipts collected so far
  suffices H : ∀ (ts : List (Tx × Bool)) (pre : List Tx) (a : Acc), (∀ p ∈ ts, G p.1) → pre.length = a.rcpts.length →
      Φ a.led (pre.zip a.rcpts) →
      Φ (ts.foldl (stepAcc cfg cache hgt) a).led ((pre ++ ts.map (·.1)).zip (ts.foldl (stepAcc cfg cache hgt) a).rcpts) from
    H txs [] { led := l } hg rfl h0
  intro ts
  induction ts with
  | nil => intro pre a _ _ h; simpa using h
  | cons p rest ih =>
    intro pre a hg hlen h
    have := ih (pre ++ [p.1]) (stepAcc cfg cache hgt a p) (fun q hq => hg q (List.mem_cons_of_mem _ hq))
      (by simp [stepAcc, hlen])
      (by
        show Φ _ ((pre ++ [p.1]).zip (a.rcpts ++ [_]))
        rw [List.zip_append hlen]
        exact hstep _ _ _ _ _ rfl rfl rfl (hg p List.mem_cons_self) h)
    simpa using this

theorem foldl_stepAcc_rcpts_length (cfg : Cfg) (cache : KV (String × String) Svc) (hgt : Nat) (txs : List (Tx × Bool)) (a : Acc) :
    (txs.foldl (stepAcc cfg cache hgt) a).rcpts.length = a.rcpts.length + txs.length := by
  induction txs generalizing a with
  | nil => rfl
  | cons t rest ih =>
    rw [List.foldl_cons, ih, List.length_cons]
    show (a.rcpts ++ [_]).length + rest.length = _
    rw [List.length_append, List.length_singleton]
    omega

theorem applyTxs_rcpts_length (cfg : Cfg) (cache : KV (String × String) Svc) (hgt : Nat) (l : Led) (txs : List (Tx × Bool)) :
    (applyTxs cfg cache hgt l txs).rcpts.length = txs.length :=
  (foldl_stepAcc_rcpts_length cfg cache hgt txs { led := l }).trans (Nat.zero_add _)

theorem applyTxs_inv (cfg : Cfg) (cache : KV (String × String) Svc) (hgt : Nat) (G : Tx → Prop) (P : Led → Prop)
    (hstep : ∀ env l tx inv, env.cfg = cfg → env.cache = cache → env.height = hgt → G tx → P l → P (applyTx env l tx inv).1)
    (l : Led) (hl : P l) (txs : List (Tx × Bool)) (hg : ∀ p ∈ txs, G p.1) : P (applyTxs cfg cache hgt l txs).led :=
  applyTxs_fold cfg cache hgt G (fun l _ => P l) (fun env l _ tx inv => hstep env l tx inv) l hl txs hg

def runBlocks (cfg : Cfg) (n : Node) (blocks : List (List (Tx × Bool))) : Node :=
  blocks.foldl (fun n b => (execBlock cfg n b).1) n

theorem runBlocks_nil (cfg : Cfg) (n : Node) : runBlocks cfg n [] = n := rfl

theorem runBlocks_cons (cfg : Cfg) (n : Node) (b : List (Tx × Bool)) (bs : List (List (Tx × Bool))) :
    runBlocks cfg n (b :: bs) = runBlocks cfg (execBlock cfg n b).1 bs := by
  unfold runBlocks; rw [List.foldl_cons]

theorem runBlocks_append (cfg : Cfg) (n : Node) (b1 b2 : List (List (Tx × Bool))) :
    runBlocks cfg n (b1 ++ b2) = runBlocks cfg (runBlocks cfg n b1) b2 := by
  unfold runBlocks; rw [List.foldl_append]

theorem runBlocks_inv (cfg : Cfg) (P : Node → Prop) (B : Node → List (Tx × Bool) → Prop)
    (hstep : ∀ n b, P n → B n b → P (execBlock cfg n b).1) (blocks : List (List (Tx × Bool))) (n : Node) (hP : P n)
    (hB : ∀ k (hk : k < blocks.length), B (runBlocks cfg n (blocks.take k)) blocks[k]) : P (runBlocks cfg n blocks) := by
  induction blocks generalizing n with
  | nil => exact hP
  | cons b rest ih =>
    -- by rewriting: left to unfolding, `runBlocks` on `take` and the indexing are slow to check
    have h0 := hB 0 (Nat.zero_lt_succ _)
    rw [List.take_zero, runBlocks_nil, List.getElem_cons_zero] at h0
    rw [runBlocks_cons]
    refine ih (execBlock cfg n b).1 (hstep n b hP h0) fun k hk => ?_
    have := hB (k + 1) (Nat.succ_lt_succ hk)
    rwa [List.take_succ_cons, runBlocks_cons, List.getElem_cons_succ] at this

theorem execBlock_height (cfg : Cfg) (n : Node) (txs : List (Tx × Bool)) : (execBlock cfg n txs).1.height = n.height + 1 := rfl

theorem runBlocks_height (cfg : Cfg) (n : Node) (blocks : List (List (Tx × Bool))) :
    (runBlocks cfg n blocks).height = n.height + blocks.length := by
  induction blocks generalizing n with
  | nil => rfl
  | cons b rest ih => rw [runBlocks_cons, ih, execBlock_height, List.length_cons]; omega

theorem runBlocks_inv_mem (cfg : Cfg) (P : Node → Prop) (Q : List (Tx × Bool) → Prop)
    (hstep : ∀ n b, P n → Q b → P (execBlock cfg n b).1) (blocks : List (List (Tx × Bool))) (n : Node) (hP : P n)
    (hQ : ∀ b ∈ blocks, Q b) : P (runBlocks cfg n blocks) :=
  runBlocks_inv cfg P (fun _ b => Q b) hstep blocks n hP fun _ hk => hQ _ (List.getElem_mem hk)

theorem setTimeoutList_getS (cfg : Cfg) (l : Led) (h : Nat) (txs : List Tx) (rcpts : List Rcpt) {k : Key}
    (hk : (k.kind != .timeout) = true := by rfl) : (setTimeoutList cfg l h txs rcpts).getS k = l.getS k := by
  have hne : ∀ d, Key.timeout d ≠ k := fun d e => by rw [← e] at hk; cases hk
  unfold setTimeoutList
  simp only
  split
  · rfl
  · refine foldl_inv (P := fun l' : Led => l'.getS k = l.getS k) (fun l' p h => ?_) _
      (foldl_inv (P := fun l' : Led => l'.getS k = l.getS k) (fun l' p h => ?_) _ rfl)
    · unfold remStep; rw [Led.getS_setS, if_neg (hne _), h]
    · unfold addStep; rw [Led.getS_addS, if_neg (hne _), h]

theorem setTimeoutList_bal (cfg : Cfg) (l : Led) (h : Nat) (txs : List Tx) (rcpts : List Rcpt) :
    (setTimeoutList cfg l h txs rcpts).bal = l.bal := by
  unfold setTimeoutList
  simp only
  split
  · rfl
  · refine foldl_inv (P := fun l' : Led => l'.bal = l.bal) ?_ _ (foldl_inv (P := fun l' : Led => l'.bal = l.bal) ?_ _ rfl)
    · exact fun _ _ h => h
    · exact fun _ _ h => h

theorem setTimeoutRollback_writes (l : Led) (h : Nat) : Writes [.txRec, .glob] l (setTimeoutRollback l h) := by
  refine foldl_inv (P := fun acc : Led × Bool => Writes [.txRec, .glob] l acc.1) (fun acc id hacc => ?_) _ (.refl l)
  -- the branches of `rollbackStep`: abandoned before; a group with its record; a group without (abandoned now); a one-to-one id
  fun_cases rollbackStep h acc id with
  | case1 | case3 => exact hacc
  | case2 => exact hacc.setO (.glob _) (some (.glob _))
  | case4 => exact hacc.setO (.txRec _) (some (.trec _))

theorem setTimeoutRollback_bal (l : Led) (h : Nat) : (setTimeoutRollback l h).bal = l.bal :=
  (setTimeoutRollback_writes l h).stepsS.bal

theorem rollbackStep_rec (h : Nat) (acc : Led × Bool) (id : TId) (t : TxId) :
    (rollbackStep h acc id).1.getS (.txRec t) =
      if acc.2 = false ∧ id = .single t then some (.trec { height := h, status := .beginRollback }) else acc.1.getS (.txRec t) := by
  -- the branches of `rollbackStep`: abandoned before; a group with its record; a group without (abandoned now); a one-to-one id
  fun_cases rollbackStep h acc id with
  | case1 _ hb => rw [if_neg (fun c => Bool.noConfusion (hb ▸ c.1))]
  | case2 => rw [if_neg (fun c => nomatch c.2), Led.getS_setS, if_neg nofun]
  | case3 => rw [if_neg (fun c => nomatch c.2)]
  | case4 hb t' =>
    rw [Led.getS_setS]
    by_cases e : t' = t
    · rw [e, if_pos rfl, if_pos ⟨Bool.eq_false_iff.mpr hb, rfl⟩]
    · rw [if_neg (fun e' => e (Key.txRec.inj e')), if_neg (fun c => e (TId.single.inj c.2))]

theorem setTimeoutRollback_rec (l : Led) (h : Nat) (t : TxId) :
    (setTimeoutRollback l h).getS (.txRec t) = l.getS (.txRec t) ∨
    (TId.single t ∈ getTimeoutList l h ∧
      (setTimeoutRollback l h).getS (.txRec t) = some (.trec { height := h, status := .beginRollback })) := by
  unfold setTimeoutRollback
  generalize getTimeoutList l h = ids
  suffices H : ∀ acc : Led × Bool, (ids.foldl (rollbackStep h) acc).1.getS (.txRec t) = acc.1.getS (.txRec t) ∨
      (TId.single t ∈ ids ∧ (ids.foldl (rollbackStep h) acc).1.getS (.txRec t) = some (.trec { height := h, status := .beginRollback })) from H (l, false)
  induction ids with
  | nil => intro acc; exact Or.inl rfl
  | cons id rest ih =>
    intro acc
    rw [List.foldl_cons]
    rcases ih (rollbackStep h acc id) with h1 | ⟨hm, h1⟩
    · rw [rollbackStep_rec] at h1
      by_cases e : acc.2 = false ∧ id = .single t
      · exact .inr ⟨e.2 ▸ List.mem_cons_self, h1.trans (if_pos e)⟩
      · exact .inl (h1.trans (if_neg e))
    · exact .inr ⟨List.mem_cons_of_mem _ hm, h1⟩

/-- what `execBlock` does after the transactions: timeout bookkeeping, timeout step, `Finalise` -/
def blockEnd (cfg : Cfg) (l : Led) (h : Nat) (txs : List Tx) (rcpts : List Rcpt) : Led :=
  (setTimeoutRollback (setTimeoutList cfg l h txs rcpts) h).finalise

theorem execBlock_led (cfg : Cfg) (n : Node) (txs : List (Tx × Bool)) :
    (execBlock cfg n txs).1.led = blockEnd cfg (applyTxs cfg n.cache (n.height + 1) n.led txs).led (n.height + 1) (txs.map (·.1))
      (applyTxs cfg n.cache (n.height + 1) n.led txs).rcpts := rfl

theorem blockEnd_getS (cfg : Cfg) (l : Led) (h : Nat) (txs : List Tx) (rcpts : List Rcpt) {k : Key}
    (hk : [.txRec, .glob].contains k.kind = false := by rfl) (hk' : (k.kind != .timeout) = true := by rfl) :
    (blockEnd cfg l h txs rcpts).getS k = l.getS k := by
  rw [blockEnd, finalise_getS, (setTimeoutRollback_writes _ h).getS hk, setTimeoutList_getS cfg l h txs rcpts hk']

theorem blockEnd_timeout (cfg : Cfg) (l : Led) (h : Nat) (txs : List Tx) (rcpts : List Rcpt) (d : Nat) :
    (blockEnd cfg l h txs rcpts).getS (.timeout d) = (setTimeoutList cfg l h txs rcpts).getS (.timeout d) := by
  rw [blockEnd, finalise_getS]
  exact (setTimeoutRollback_writes _ h).getS

theorem blockEnd_rec (cfg : Cfg) (l : Led) (h : Nat) (txs : List Tx) (rcpts : List Rcpt) (t : TxId) :
    (blockEnd cfg l h txs rcpts).getS (.txRec t) = l.getS (.txRec t) ∨
    (TId.single t ∈ getTimeoutList (setTimeoutList cfg l h txs rcpts) h ∧
      (blockEnd cfg l h txs rcpts).getS (.txRec t) = some (.trec { height := h, status := .beginRollback })) := by
  rw [blockEnd, finalise_getS]
  exact (setTimeoutRollback_rec (setTimeoutList cfg l h txs rcpts) h t).imp_left
    fun e => e.trans (setTimeoutList_getS cfg l h txs rcpts)

theorem blockEnd_listCount (cfg : Cfg) (l : Led) (h : Nat) (txs : List Tx) (rcpts : List Rcpt) (d : Nat) (t : TxId) :
    listCount (blockEnd cfg l h txs rcpts) d t = listCount (setTimeoutList cfg l h txs rcpts) d t :=
  listCount_congr (blockEnd_timeout cfg l h txs rcpts d)

end Bxh.Exec
