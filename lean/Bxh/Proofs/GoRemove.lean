import Bxh.Model.Exec
/-!
# Go's in-place removal from a slice while ranging over it (`removeFromTimeoutList`)

`goRemoveLoop` replays `for index, value := range list { if value == txId { list = append(list[:index], list[index+1:]...) } }`
on the shared backing array: `arr.take len` is the list, what lies beyond `len` are stale copies that the `range` still reads.
Whatever the list holds, the loop only ever takes entries equal to `x` out (`goRemove_spec`); it is `List.erase` when the id occurs
at most once (`goRemove_count_le_one`).
-/
namespace Bxh.Exec

section
variable {α : Type} (arr : List α) {idx len : Nat}

theorem take_eq_append_cons (h1 : idx < len) (h2 : len ≤ arr.length) :
    arr.take len = arr.take idx ++ arr[idx] :: (arr.drop (idx + 1)).take (len - idx - 1) := by
  induction arr generalizing idx len with
  | nil => exact absurd (Nat.lt_of_lt_of_le h1 h2) (Nat.not_lt_zero _)
  | cons a rest ih =>
    cases len with
    | zero => exact absurd h1 (Nat.not_lt_zero _)
    | succ k =>
      cases idx with
      | zero => rfl
      | succ i =>
        rw [List.take_succ_cons, ih (Nat.lt_of_succ_lt_succ h1) (Nat.le_of_succ_le_succ h2), Nat.add_sub_add_right]
        rfl

theorem length_kept (h1 : idx < len) (h2 : len ≤ arr.length) :
    (arr.take idx ++ (arr.drop (idx + 1)).take (len - idx - 1)).length = len - 1 := by
  rw [List.length_append, List.length_take_of_le (by omega), List.length_take_of_le (by rw [List.length_drop]; omega)]
  omega

end

theorem goRemoveLoop_spec (x : Option TId) (fuel idx : Nat) (arr : List (Option TId)) (len : Nat) (r : List (Option TId) × Nat)
    (hlen : len ≤ arr.length) (e : goRemoveLoop x fuel idx arr len = some r) :
    (r.1.take r.2).Sublist (arr.take len) ∧ ∀ y, y ≠ x → (r.1.take r.2).count y = (arr.take len).count y := by
  induction fuel generalizing idx arr len with
  | zero => cases e; exact ⟨.refl _, fun _ _ => rfl⟩
  | succ fuel ih =>
    rw [goRemoveLoop] at e
    by_cases hx : (arr.getD idx none == x) = true
    · rw [if_pos hx] at e
      by_cases hp : idx + 1 > len
      · rw [if_pos hp] at e; cases e
      · rw [if_neg hp] at e
        have h1 : idx < len := by omega
        have ih := ih _ _ _ (by rw [List.length_append, length_kept arr h1 hlen]; omega) e
        rw [List.take_left' (length_kept arr h1 hlen)] at ih
        rw [take_eq_append_cons arr h1 hlen]
        refine ⟨ih.1.trans ((List.sublist_cons_self _ _).append_left _), fun y hy => ?_⟩
        have : arr[idx] ≠ y := by
          rw [List.getD_eq_getElem?_getD, List.getElem?_eq_getElem (by omega)] at hx
          exact fun e' => hy (e'.symm.trans (beq_iff_eq.mp hx))
        rw [ih.2 y hy, List.count_append, List.count_append, List.count_cons_of_ne this]
    · rw [if_neg hx] at e
      exact ih _ _ _ hlen e

theorem goRemove_spec {lst r : List (Option TId)} {x : TId} (e : goRemove lst x = some r) :
    r.Sublist lst ∧ ∀ y, y ≠ some x → r.count y = lst.count y := by
  unfold goRemove at e
  split at e
  · rename_i arr len h
    cases e
    simpa using goRemoveLoop_spec (some x) _ _ _ _ _ (Nat.le_refl _) h
  · cases e

theorem goRemove_sublist (lst r : List (Option TId)) (x : TId) (e : goRemove lst x = some r) : r.Sublist lst :=
  (goRemove_spec e).1

theorem goRemove_mem (lst r : List (Option TId)) (x : TId) (e : goRemove lst x = some r) (y : Option TId) (hy : y ∈ r) : y ∈ lst :=
  (goRemove_spec e).1.subset hy

/-- the loop does not look at what lies before `idx` -/
theorem goRemoveLoop_cons (x a : Option TId) (fuel idx : Nat) (arr : List (Option TId)) (len : Nat) :
    goRemoveLoop x fuel (idx + 1) (a :: arr) (len + 1) = (goRemoveLoop x fuel idx arr len).map (fun r => (a :: r.1, r.2 + 1)) := by
  induction fuel generalizing idx arr len with
  | zero => rfl
  | succ fuel ih =>
    rw [goRemoveLoop, goRemoveLoop, List.getD_cons_succ]
    by_cases hx : (arr.getD idx none == x) = true
    · rw [if_pos hx, if_pos hx]
      by_cases hp : idx + 1 > len
      · rw [if_pos hp, if_pos (by omega)]; rfl
      · rw [if_neg hp, if_neg (by omega)]
        obtain ⟨k, rfl⟩ : ∃ k, len = k + 1 := ⟨len - 1, by omega⟩
        rw [Nat.add_sub_cancel, Nat.add_sub_cancel, ← ih]
        simp only [List.take_succ_cons, List.drop_succ_cons, List.cons_append]
        rw [show k + 1 + 1 - (idx + 1) - 1 = k + 1 - idx - 1 by omega]
    · rw [if_neg hx, if_neg hx]
      exact ih _ _ _

theorem goRemove_cons_ne {a : Option TId} {x : TId} (h : a ≠ some x) (lst : List (Option TId)) :
    goRemove (a :: lst) x = (goRemove lst x).map (a :: ·) := by
  unfold goRemove
  rw [List.length_cons, goRemoveLoop, if_neg (by simpa using h), goRemoveLoop_cons]
  cases goRemoveLoop (some x) lst.length 0 lst lst.length <;> rfl

theorem goRemoveLoop_of_not_mem {x : TId} {arr : List (Option TId)} (h : some x ∉ arr) (fuel idx len : Nat) :
    goRemoveLoop (some x) fuel idx arr len = some (arr, len) := by
  induction fuel generalizing idx with
  | zero => rfl
  | succ fuel ih =>
    rw [goRemoveLoop, if_neg, ih]
    rw [beq_iff_eq, List.getD_eq_getElem?_getD]
    intro e
    cases hi : arr[idx]? with
    | none => rw [hi] at e; cases e
    | some v => rw [hi] at e; exact h (e ▸ List.mem_of_getElem? hi)

theorem goRemove_cons_self {x : TId} {lst : List (Option TId)} (h : some x ∉ lst) : goRemove (some x :: lst) x = some lst := by
  unfold goRemove
  rw [List.length_cons, goRemoveLoop, if_pos (by simp), if_neg (by omega)]
  simp only [List.take_zero, List.nil_append, Nat.sub_zero, Nat.add_sub_cancel, Nat.zero_add, List.drop_succ_cons, List.drop_zero,
    List.take_length]
  cases lst with
  | nil => rfl
  | cons b rest =>
    rw [goRemoveLoop_of_not_mem]
    · exact congrArg some (List.take_left' rfl)
    · rw [List.length_cons, List.drop_succ_cons, List.mem_append]
      exact fun hm => hm.elim h (fun hm => h (List.mem_of_mem_drop hm))

/-- **`removeFromTimeoutList` on a list that holds the id at most once**: no panic, the id is gone, every other
entry stays, in order (`List.erase`) -/
theorem goRemove_count_le_one (lst : List (Option TId)) (x : TId) (h : lst.count (some x) ≤ 1) :
    goRemove lst x = some (lst.erase (some x)) := by
  induction lst with
  | nil => rfl
  | cons a rest ih =>
    by_cases ha : a = some x
    · subst ha
      rw [List.count_cons_self] at h
      rw [goRemove_cons_self (List.count_eq_zero.mp (by omega)), List.erase_cons_head]
    · rw [List.count_cons_of_ne ha] at h
      rw [goRemove_cons_ne ha, ih h, List.erase_cons_tail (by simpa using ha)]
      rfl

theorem count_normList (r : List (Option TId)) (x : TId) : (normList r).count (some x) = r.count (some x) := by
  unfold normList
  split
  · rename_i he; rw [List.isEmpty_iff.mp he]; rfl
  · rfl

theorem count_normList_le (r : List (Option TId)) (t : TxId) :
    (normList r).count (some (TId.single t)) ≤ r.count (some (TId.single t)) :=
  Nat.le_of_eq (count_normList r _)

theorem normList_mem_single (r : List (Option TId)) (t : TxId) (h : some (TId.single t) ∈ normList r) : some (TId.single t) ∈ r := by
  rw [← List.count_pos_iff] at h ⊢
  rwa [count_normList] at h

end Bxh.Exec
