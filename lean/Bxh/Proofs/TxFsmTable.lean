import Bxh.Model.Exec
import Bxh.Prelude.Fold
/-!
# The transaction state machine as the executor uses it

A step of a state machine is an entry of its table: what holds of every entry holds of every step.
`txFsmStep` itself is only ever asked about the event of a receipt (`receiptEvent`) or of the destination hub's notice
(`noticeEvent`); what the regenerated tables (`Gen.txFsm`, `Gen.receipt2Event`, `Gen.txStatus2Event`) answer for those events, for
every status, is evaluated once (`txFsm_facts`); the lemmas after it are its parts, freed of the enumerations (the parts about
`noticeEvent`: `noticeEvent_values`, `notice_step` in `Props/C04.lean`).
-/
namespace Bxh.Exec

theorem fsmLookup_mem {tbl : List (String × List String × String)} {ev src d : String} (h : fsmLookup tbl ev src = some d) :
    ∃ e ∈ tbl, e.1 = ev ∧ src ∈ e.2.1 ∧ e.2.2 = d := by
  refine foldl_inv_mem (P := fun acc => ∀ d, acc = some d → ∃ e ∈ tbl, e.1 = ev ∧ src ∈ e.2.1 ∧ e.2.2 = d) tbl
    (fun acc e he hacc d hd => ?_) (fun _ hd => by cases hd) d h
  by_cases hc : (e.1 == ev && e.2.1.contains src) = true
  · rw [if_pos hc] at hd
    simp only [Bool.and_eq_true, beq_iff_eq, List.contains_iff_mem] at hc
    exact ⟨e, he, hc.1, hc.2, Option.some.inj hd⟩
  · rw [if_neg hc] at hd
    exact hacc d hd

theorem fsmStep_entry {tbl : List (String × List String × String)} {st st' : Status} {ev : String} (h : fsmStep tbl st ev = some st') :
    ∃ e ∈ tbl, e.1 = ev ∧ st.name ∈ e.2.1 ∧ e.2.2 = st'.name := by
  revert h
  fun_cases fsmStep tbl st ev with
  | case1 | case3 => nofun
  | case2 d hl =>
    intro h
    obtain ⟨e, he, h1, h2, h3⟩ := fsmLookup_mem hl
    have hn : (st'.name == d) = true := @List.find?_some _ (fun x : Status => x.name == d) st' Status.all h
    exact ⟨e, he, h1, h2, h3.trans (beq_iff_eq.mp hn).symm⟩

theorem Status.mem_all (st : Status) : st ∈ Status.all := by cases st <;> decide

/-- one evaluation: the kernel turns every string it compares into its bytes first and remembers that only within one declaration.
`∀ st' ∈ txFsmStep …` is membership in an `Option`: the step is evaluated once, not once per candidate result. -/
theorem txFsm_facts :
    (∀ st ∈ Status.all, Status.ofName st.name = some st) ∧
    (noticeEvent .beginFailure = "dst_failure" ∧ noticeEvent .beginRollback = "dst_rollback" ∧
      noticeEvent .none = "" ∧ noticeEvent .other = "") ∧
    (∀ x ∈ [Ext.none, .beginFailure, .beginRollback, .other, .junk], ∀ st ∈ Status.all, ∀ st' ∈ txFsmStep st (noticeEvent x),
      st = .begin ∧ ((x = .beginFailure ∧ st' = .failure) ∨ (x = .beginRollback ∧ st' = .rollback))) ∧
    (txFsmStep .begin (noticeEvent .beginFailure) = some .failure ∧ txFsmStep .begin (noticeEvent .beginRollback) = some .rollback) ∧
    (∀ n ∈ [1, 2, 3], ∀ s ∈ Status.all, ∀ s' ∈ txFsmStep s (receiptEvent n), s'.isFinal = true) ∧
    txFsmStep .begin (receiptEvent 1) = some .success ∧
    (∀ st ∈ Status.all, ∀ st' ∈ txFsmStep st "success", st' = .success) ∧
    (∀ e ∈ Gen.txFsm, e.2.2 = "SUCCESS" → e.1 = "success") := by
  decide +kernel

theorem Status.ofName_name (st : Status) : Status.ofName st.name = some st := txFsm_facts.1 st st.mem_all

theorem txFsmStep_begin_notice :
    txFsmStep .begin (noticeEvent .beginFailure) = some .failure ∧ txFsmStep .begin (noticeEvent .beginRollback) = some .rollback :=
  txFsm_facts.2.2.2.1

theorem txFsmStep_receipt_final {s s' : Status} {ty : IType} (hr : ty.isResponse = true)
    (h : txFsmStep s (receiptEvent ty.toNat) = some s') : s'.isFinal = true := by
  have key := txFsm_facts.2.2.2.2.1
  cases ty with
  | interchain => cases hr
  | other n => cases hr
  | receiptSuccess => exact key 1 (by decide) s s.mem_all s' h
  | receiptFailure => exact key 2 (by decide) s s.mem_all s' h
  | receiptRollback => exact key 3 (by decide) s s.mem_all s' h

theorem txFsmStep_begin_success_receipt : txFsmStep .begin (receiptEvent 1) = some .success := txFsm_facts.2.2.2.2.2.1

theorem txFsmStep_success {st st' : Status} (h : txFsmStep st "success" = some st') : st' = .success :=
  txFsm_facts.2.2.2.2.2.2.1 st st.mem_all st' h

theorem txFsm_success_event : ∀ e ∈ Gen.txFsm, e.2.2 = "SUCCESS" → e.1 = "success" := txFsm_facts.2.2.2.2.2.2.2

end Bxh.Exec
