/-! Sorting by a key (`mergeSort`) does not depend on the order of the input when no two elements share a key (used for the state root, C10). -/
namespace Bxh

/-- the sorted lists are permutations of each other, both are sorted, and the order is antisymmetric on them -/
theorem mergeSort_key_eq_of_perm {α κ : Type} [LE κ] [DecidableLE κ] [Std.IsLinearOrder κ] (key : α → κ) (l₁ l₂ : List α)
    (hp : l₁.Perm l₂) (huniq : ∀ a b, a ∈ l₁ → b ∈ l₁ → key a = key b → a = b) :
    l₁.mergeSort (fun x y => decide (key x ≤ key y)) = l₂.mergeSort (fun x y => decide (key x ≤ key y)) := by
  have trans : ∀ a b c : α, decide (key a ≤ key b) = true → decide (key b ≤ key c) = true → decide (key a ≤ key c) = true :=
    fun a b c h1 h2 => decide_eq_true (Std.le_trans (of_decide_eq_true h1) (of_decide_eq_true h2))
  have total : ∀ a b : α, (decide (key a ≤ key b) || decide (key b ≤ key a)) = true := fun a b => by
    rw [Bool.or_eq_true, decide_eq_true_eq, decide_eq_true_eq]; exact Std.le_total
  apply List.Perm.eq_of_pairwise (le := fun a b => decide (key a ≤ key b) = true)
  · intro a b ha hb hab hba
    exact huniq a b ((List.mergeSort_perm l₁ _).subset ha) (hp.symm.subset ((List.mergeSort_perm l₂ _).subset hb))
      (Std.le_antisymm (of_decide_eq_true hab) (of_decide_eq_true hba))
  · exact List.pairwise_mergeSort trans total l₁
  · exact List.pairwise_mergeSort trans total l₂
  · exact ((List.mergeSort_perm l₁ _).trans hp).trans (List.mergeSort_perm l₂ _).symm

end Bxh
