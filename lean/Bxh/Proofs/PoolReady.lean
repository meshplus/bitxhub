import Bxh.Proofs.PoolBatch
/-!
# `filterReady`: the ready transactions of an account are the maximal gap-free run of its nonces from the demanded one
-/
namespace Bxh.Mempool

def frStep (acc : List Nat × List Nat × Nat) (n : Nat) : List Nat × List Nat × Nat :=
  if n == acc.2.2 then (acc.1 ++ [n], acc.2.1, acc.2.2 + 1) else (acc.1, acc.2.1 ++ [n], acc.2.2)

theorem filterReady_eq (p : Pool) (a : String) (demand : Nat) :
    filterReady p a demand = ((noncesOf p a).filter (· ≥ demand)).foldl frStep ([], [], demand) := rfl

theorem frStep_hit (r nr : List Nat) (d : Nat) : frStep (r, nr, d) d = (r ++ [d], nr, d + 1) := by
  simp [frStep]

theorem frStep_miss (r nr : List Nat) {d x : Nat} (h : x ≠ d) : frStep (r, nr, d) x = (r, nr ++ [x], d) := by
  simp [frStep, h]

theorem frFold_spec (L r nr : List Nat) (d : Nat) (hs : L.Pairwise (· ≤ ·)) :
    ∃ j, (L.foldl frStep (r, nr, d)).1 = r ++ List.range' d j ∧ (L.foldl frStep (r, nr, d)).2.2 = d + j ∧
      (∀ n ∈ List.range' d j, n ∈ L) ∧ d + j ∉ L := by
  induction L generalizing r nr d with
  | nil => exact ⟨0, by simp⟩
  | cons x rest ih =>
    obtain ⟨hx, hrest⟩ := List.pairwise_cons.mp hs
    rw [List.foldl_cons]
    by_cases he : x = d
    · subst he
      obtain ⟨j, e1, e2, e3, e4⟩ := ih (r ++ [x]) nr (x + 1) hrest
      rw [Nat.add_assoc, Nat.add_comm 1] at e2 e4
      rw [frStep_hit]
      refine ⟨j + 1, by rw [e1, List.range'_succ, List.append_assoc]; rfl, e2, fun n hn => ?_, fun hm => ?_⟩
      · rcases List.mem_cons.mp (List.range'_succ ▸ hn) with rfl | h
        · exact List.mem_cons_self
        · exact List.mem_cons_of_mem _ (e3 n h)
      · rcases List.mem_cons.mp hm with h | h
        · omega
        · exact e4 h
    · obtain ⟨j, e1, e2, e3, e4⟩ := ih r (nr ++ [x]) d hrest
      rw [frStep_miss r nr he]
      refine ⟨j, e1, e2, fun n hn => List.mem_cons_of_mem _ (e3 n hn), fun hm => ?_⟩
      rcases List.mem_cons.mp hm with h | h
      · -- `x = d + j` lies above `d`, so `d` does not come after it: nothing became ready
        cases j with
        | zero => exact he h.symm
        | succ j => exact absurd (hx d (e3 d (by simp))) (by omega)
      · exact e4 h

theorem noncesOf_sorted (p : Pool) (a : String) : (noncesOf p a).Pairwise (· ≤ ·) := by
  unfold noncesOf
  have := List.pairwise_mergeSort (le := fun (x y : Nat) => decide (x ≤ y))
    (fun a b c h1 h2 => by simp at *; omega) (fun a b => by simp; omega) ((p.nidx.filter (·.1 == a)).map (·.2))
  simpa using this

theorem filterReady_spec (p : Pool) (a : String) (demand : Nat) :
    (filterReady p a demand).1 = List.range' demand (filterReady p a demand).1.length ∧
    (filterReady p a demand).2.2 = demand + (filterReady p a demand).1.length ∧
    (∀ n ∈ (filterReady p a demand).1, n ∈ noncesOf p a) ∧
    (filterReady p a demand).2.2 ∉ noncesOf p a := by
  obtain ⟨j, e1, e2, e3, e4⟩ := frFold_spec ((noncesOf p a).filter (· ≥ demand)) [] [] demand
    ((noncesOf_sorted p a).sublist List.filter_sublist)
  rw [filterReady_eq, e1, e2, List.nil_append, List.length_range']
  exact ⟨rfl, rfl, fun n hn => (List.mem_filter.mp (e3 n hn)).1, fun hm => e4 (List.mem_filter.mpr ⟨hm, by simp⟩)⟩

theorem noncesOf_nodup (p : Pool) (a : String) (h : p.nidx.Nodup) : (noncesOf p a).Nodup := by
  unfold noncesOf
  have acct : ∀ x ∈ p.nidx.filter (·.1 == a), x.1 = a := fun x hx => by simpa using (List.mem_filter.mp hx).2
  -- two pointers of the account with one nonce are one pointer
  have hm : ((p.nidx.filter (·.1 == a)).map (·.2)).Nodup :=
    List.pairwise_map.mpr ((h.sublist List.filter_sublist).imp_of_mem fun hx hy hne e =>
      hne (Prod.ext ((acct _ hx).trans (acct _ hy).symm) e))
  exact (List.mergeSort_perm _ _).nodup_iff.mpr hm

theorem getPending_nidx (p : Pool) (a : String) : (getPending p a).1.nidx = p.nidx := by
  obtain ⟨c, h⟩ := getPending_pool p a
  rw [h]

theorem noncesOf_congr {p q : Pool} (h : q.nidx = p.nidx) (a : String) : noncesOf q a = noncesOf p a := by
  unfold noncesOf; rw [h]

end Bxh.Mempool
