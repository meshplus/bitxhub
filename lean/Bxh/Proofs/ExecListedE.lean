import Bxh.Proofs.ExecBlock
/-!
# The transactions of a block leave every one-to-one id on the timeout lists exactly as often as it was there

Exact counts and well-formedness of the lists, through `StepsE` (the footprint of every contract function): what the positive half of
C06 ("a request without a receipt is still on the list of its deadline when that block comes", `Props/C06b.lean`) needs of a block's
transactions.
-/
namespace Bxh.Exec
open Bxh

theorem applyTx_count_eq (env : Env) (l : Led) (tx : Tx) (inv : Option String) (d : Nat) (t : TxId) :
    listCount (applyTx env l tx inv).1 d t = listCount l d t := by
  obtain ⟨l', hw, hk⟩ := applyTx_writes env l tx inv
  rw [listCount_congr (hk _)]; exact hw.stepsE.count d t

theorem applyTx_wf (env : Env) (l : Led) (tx : Tx) (inv : Option String) (h : ∀ d, WFV (l.getS (.timeout d))) :
    ∀ d, WFV ((applyTx env l tx inv).1.getS (.timeout d)) := by
  obtain ⟨l', hw, hk⟩ := applyTx_writes env l tx inv
  intro d; rw [hk]; exact hw.stepsE.wf h d

theorem applyTxs_count_eq (cfg : Cfg) (cache : KV (String × String) Svc) (hgt : Nat) (l : Led) (txs : List (Tx × Bool)) (d : Nat) (t : TxId) :
    listCount (applyTxs cfg cache hgt l txs).led d t = listCount l d t :=
  applyTxs_inv cfg cache hgt (fun _ => True) (fun l' => listCount l' d t = listCount l d t)
    (fun env l' tx inv _ _ _ _ h => (applyTx_count_eq env l' tx inv d t).trans h) l rfl txs (fun _ _ => trivial)

theorem applyTxs_wf (cfg : Cfg) (cache : KV (String × String) Svc) (hgt : Nat) (l : Led) (txs : List (Tx × Bool))
    (h : ∀ d, WFV (l.getS (.timeout d))) : ∀ d, WFV ((applyTxs cfg cache hgt l txs).led.getS (.timeout d)) :=
  applyTxs_inv cfg cache hgt (fun _ => True) (fun l' => ∀ d, WFV (l'.getS (.timeout d)))
    (fun env l' tx inv _ _ _ _ h => applyTx_wf env l' tx inv h) l h txs (fun _ _ => trivial)

end Bxh.Exec
