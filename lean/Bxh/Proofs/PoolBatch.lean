import Bxh.Model.Mempool
import Bxh.Prelude.Fold
/-!
# The batch-building loop of the pool: no pointer twice, no nonce gap, never beyond the limit

One invariant (`BInv`) of `genStep` / `drainSkipped` over the whole `Ascend` iteration of `generateBlock`: the loop writes
nothing but the batched set and the commit-nonce cache, a pointer is appended only while the iteration is not stopped,
only if it was not batched before, and only if it carries the account's committed nonce or its predecessor nonce is batched.
-/
namespace Bxh.Mempool

theorem mem_setIns {α : Type} [DecidableEq α] (l : List α) (x y : α) : y ∈ setIns l x ↔ y ∈ l ∨ y = x := by
  unfold setIns
  split
  · rename_i h
    exact ⟨Or.inl, fun h1 => h1.elim id (fun e => e ▸ h)⟩
  · simp

theorem mem_setDel {α : Type} [DecidableEq α] (l : List α) (x y : α) : y ∈ setDel l x ↔ y ∈ l ∧ y ≠ x := by
  unfold setDel; simp

theorem setIns_nodup {α : Type} [DecidableEq α] (l : List α) (x : α) (h : l.Nodup) : (setIns l x).Nodup := by
  unfold setIns
  split
  · exact h
  · rename_i hx
    exact List.nodup_append.mpr ⟨h, List.pairwise_singleton _ _, fun a ha b hb e => hx (List.mem_singleton.mp hb ▸ e ▸ ha)⟩

theorem setDel_nodup {α : Type} [DecidableEq α] (l : List α) (x : α) (h : l.Nodup) : (setDel l x).Nodup := by
  exact h.sublist List.filter_sublist

/-- the committed nonce the pool works with (cached value, else the ledger's) -/
def cn (p : Pool) (a : String) : Nat :=
  match KV.get p.commitN a with
  | some n => n
  | none => KV.getD p.ledger a 0

theorem getCommit_eq (p : Pool) (a : String) :
    ∃ c, getCommit p a = ({ p with commitN := c }, cn p a) ∧ ∀ b, cn { p with commitN := c } b = cn p b := by
  unfold getCommit
  cases h : KV.get p.commitN a with
  | some n => exact ⟨p.commitN, by simp only [cn, h], fun _ => rfl⟩
  | none =>
    refine ⟨KV.set p.commitN a (KV.getD p.ledger a 0), by simp only [cn, h], fun b => ?_⟩
    unfold cn
    simp only [KV.get_set]
    by_cases hab : a = b
    · subst hab; simp [h]
    · simp [hab]

theorem getCommit_batched (p : Pool) (a : String) : (getCommit p a).1.batched = p.batched := by
  obtain ⟨c, e, _⟩ := getCommit_eq p a
  rw [e]

theorem getPending_pool (p : Pool) (a : String) : ∃ c, (getPending p a).1 = { p with commitN := c } := by
  unfold getPending
  split
  · exact ⟨p.commitN, rfl⟩
  · obtain ⟨c, e, _⟩ := getCommit_eq p a
    exact ⟨c, by rw [e]⟩

/-- what `genStep` and `drainSkipped` have in common -/
def addThenDrain (limit fuel : Nat) (acc : GenAcc) (ptr : Ptr) : GenAcc :=
  if (addPtr limit acc ptr).stop then addPtr limit acc ptr
  else drainSkipped limit fuel (addPtr limit acc ptr) (ptr.1, ptr.2 + 1)

theorem drainSkipped_succ (limit fuel : Nat) (acc : GenAcc) (ptr : Ptr) :
    drainSkipped limit (fuel + 1) acc ptr = if ptr ∈ acc.skipped then addThenDrain limit fuel acc ptr else acc := rfl

theorem genStep_eq (limit : Nat) (acc : GenAcc) (k : Int × String × Nat) :
    genStep limit acc k =
      if acc.stop then acc
      else if (k.2.1, k.2.2) ∈ acc.pool.batched then acc
      else if eligible (getCommit acc.pool k.2.1).1 k.2.1 k.2.2 (getCommit acc.pool k.2.1).2 then
        addThenDrain limit (acc.skipped.length + 1) { acc with pool := (getCommit acc.pool k.2.1).1 } (k.2.1, k.2.2)
      else { acc with pool := (getCommit acc.pool k.2.1).1, skipped := setIns acc.skipped (k.2.1, k.2.2) } := rfl

theorem eligible_iff (p : Pool) (a : String) (n c : Nat) :
    eligible p a n c = true ↔ n = c ∨ (1 ≤ n ∧ (a, n - 1) ∈ p.batched) := by
  simp [eligible, or_comm]

theorem mem_addPtr_batched (limit : Nat) (acc : GenAcc) (ptr x : Ptr) :
    x ∈ (addPtr limit acc ptr).pool.batched ↔ x ∈ acc.pool.batched ∨ x = ptr := mem_setIns _ _ _

structure BInv (p0 : Pool) (limit : Nat) (acc : GenAcc) : Prop where
  frame : ∃ c b, acc.pool = { p0 with commitN := c, batched := b }
  cnSame : ∀ a, cn acc.pool a = cn p0 a
  cap : limit ≠ 0 → acc.result.length ≤ limit ∧ (acc.stop = false → acc.result.length < limit)
  nodup : acc.result.Nodup
  fresh : ∀ ptr ∈ acc.result, ptr ∉ p0.batched
  grown : ∀ x, x ∈ acc.pool.batched ↔ (x ∈ p0.batched ∨ x ∈ acc.result)
  gapfree : ∀ ptr ∈ acc.result, ptr.2 = cn p0 ptr.1 ∨ (1 ≤ ptr.2 ∧ (ptr.1, ptr.2 - 1) ∈ acc.pool.batched)
  skipPred : ∀ ptr ∈ acc.skipped, ptr ∈ acc.pool.batched → (1 ≤ ptr.2 ∧ (ptr.1, ptr.2 - 1) ∈ acc.pool.batched)
  skipNotCn : ∀ ptr ∈ acc.skipped, ptr.2 ≠ cn p0 ptr.1

theorem binv_init (p : Pool) (limit : Nat) : BInv p limit { pool := p } :=
  { frame := ⟨p.commitN, p.batched, rfl⟩
    cnSame := fun _ => rfl
    cap := fun h => ⟨Nat.zero_le _, fun _ => Nat.pos_of_ne_zero h⟩
    nodup := List.nodup_nil
    fresh := fun _ h => nomatch h
    grown := by intro x; simp
    gapfree := fun _ h => nomatch h
    skipPred := fun _ h => nomatch h
    skipNotCn := fun _ h => nomatch h }

theorem addPtr_binv {p0 : Pool} {limit : Nat} {acc : GenAcc} {ptr : Ptr} (h : BInv p0 limit acc) (hs : acc.stop = false)
    (hnb : ptr ∉ acc.pool.batched)
    (hel : ptr.2 = cn p0 ptr.1 ∨ (1 ≤ ptr.2 ∧ (ptr.1, ptr.2 - 1) ∈ acc.pool.batched)) :
    BInv p0 limit (addPtr limit acc ptr) := by
  have hb := mem_addPtr_batched limit acc ptr
  have hlen : (acc.result ++ [ptr]).length = acc.result.length + 1 := List.length_append
  have hst : (addPtr limit acc ptr).stop = (acc.result.length + 1 == limit) := congrArg (· == limit) hlen
  have keep : ∀ x : Ptr, (1 ≤ x.2 ∧ (x.1, x.2 - 1) ∈ acc.pool.batched) → (1 ≤ x.2 ∧ (x.1, x.2 - 1) ∈ (addPtr limit acc ptr).pool.batched) :=
    fun x hx => ⟨hx.1, (hb _).mpr (Or.inl hx.2)⟩
  exact
    { frame := by
        obtain ⟨c, b, hf⟩ := h.frame
        exact ⟨c, setIns b ptr, by show { acc.pool with batched := setIns acc.pool.batched ptr } = _; rw [hf]⟩
      cnSame := h.cnSame
      cap := fun hl => by
        have := (h.cap hl).2 hs
        refine ⟨hlen ▸ this, fun hopen => ?_⟩
        rw [hst, beq_eq_false_iff_ne] at hopen
        exact hlen ▸ Nat.lt_of_le_of_ne this hopen
      nodup := List.nodup_append.mpr ⟨h.nodup, List.pairwise_singleton _ _, fun a ha b hb' e =>
        hnb ((h.grown ptr).mpr (Or.inr (List.mem_singleton.mp hb' ▸ e ▸ ha)))⟩
      fresh := List.forall_mem_append.mpr ⟨h.fresh, List.forall_mem_singleton.mpr fun hh => hnb ((h.grown ptr).mpr (Or.inl hh))⟩
      grown := fun x => by
        rw [hb x, h.grown x, or_assoc]
        exact or_congr_right (List.mem_append.trans (or_congr_right List.mem_singleton)).symm
      gapfree := List.forall_mem_append.mpr
        ⟨fun x hx => (h.gapfree x hx).imp_right (keep x), List.forall_mem_singleton.mpr (hel.imp_right (keep ptr))⟩
      skipPred := fun x hx hxb => by
        rcases (hb x).mp hxb with h1 | rfl
        · exact keep x (h.skipPred x hx h1)
        · exact keep x (hel.resolve_left (h.skipNotCn x hx))
      skipNotCn := h.skipNotCn }

/-- the successor of the pointer just batched, if it was skipped, is not batched yet: had it been, its predecessor — the pointer
just batched — would have been too (`skipPred`) -/
theorem addThenDrain_binv {p0 : Pool} {limit : Nat} (fuel : Nat) {acc : GenAcc} {ptr : Ptr} (h : BInv p0 limit acc)
    (hs : acc.stop = false) (hnb : ptr ∉ acc.pool.batched)
    (hel : ptr.2 = cn p0 ptr.1 ∨ (1 ≤ ptr.2 ∧ (ptr.1, ptr.2 - 1) ∈ acc.pool.batched)) :
    BInv p0 limit (addThenDrain limit fuel acc ptr) := by
  induction fuel generalizing acc ptr with
  | zero =>
    have h1 := addPtr_binv h hs hnb hel
    unfold addThenDrain
    split
    · exact h1
    · exact h1
  | succ fuel ih =>
    have h1 := addPtr_binv h hs hnb hel
    unfold addThenDrain
    rw [drainSkipped_succ]
    split
    · exact h1
    · rename_i hopen
      split
      · rename_i hsk
        have hin : ptr ∈ (addPtr limit acc ptr).pool.batched := (mem_addPtr_batched ..).mpr (Or.inr rfl)
        refine ih h1 (Bool.eq_false_iff.mpr hopen) (fun hb2 => ?_) (Or.inr ⟨Nat.le_add_left .., hin⟩)
        rcases (mem_addPtr_batched ..).mp hb2 with h2 | h2
        · exact hnb (h.skipPred _ hsk h2).2
        · exact absurd (congrArg Prod.snd h2) (Nat.succ_ne_self _)
      · exact h1

theorem genStep_binv {p0 : Pool} {limit : Nat} {acc : GenAcc} (h : BInv p0 limit acc) (k : Int × String × Nat) :
    BInv p0 limit (genStep limit acc k) := by
  rw [genStep_eq]
  by_cases hs : acc.stop = true
  · rw [if_pos hs]; exact h
  by_cases hnb : (k.2.1, k.2.2) ∈ acc.pool.batched
  · rw [if_neg hs, if_pos hnb]; exact h
  rw [if_neg hs, if_neg hnb]
  obtain ⟨c, e, hcn⟩ := getCommit_eq acc.pool k.2.1
  rw [e, h.cnSame]
  obtain ⟨_, b0, hf⟩ := h.frame
  have h0 : BInv p0 limit { acc with pool := { acc.pool with commitN := c } } :=
    { h with frame := ⟨c, b0, by rw [hf]⟩, cnSame := fun b => (hcn b).trans (h.cnSame b) }
  split
  · rename_i he
    exact addThenDrain_binv _ h0 (Bool.eq_false_iff.mpr hs) hnb ((eligible_iff ..).mp he)
  · rename_i hne
    rw [eligible_iff] at hne
    -- the pointer joins the skipped ones: it is not batched, and its nonce is not the committed one
    exact { h0 with
      skipPred := fun x hx hxb => by
        rcases (mem_setIns _ _ _).mp hx with h1 | rfl
        · exact h0.skipPred x h1 hxb
        · exact absurd hxb hnb
      skipNotCn := fun x hx => by
        rcases (mem_setIns _ _ _).mp hx with h1 | rfl
        · exact h0.skipNotCn x h1
        · exact fun e => hne (Or.inl e) }

theorem fold_binv {p0 : Pool} {limit : Nat} (ks : List (Int × String × Nat)) {acc : GenAcc} (h : BInv p0 limit acc) :
    BInv p0 limit (ks.foldl (genStep limit) acc) :=
  foldl_inv (P := BInv p0 limit) (fun _ k h => genStep_binv h k) ks h

def genLimit (p : Pool) : Nat := if p.nonBatch > p.batchSize then p.batchSize else p.nonBatch

def genAcc (p : Pool) : GenAcc := (sortPrio p.priority).foldl (genStep (genLimit p)) { pool := p }

theorem genAcc_binv (p : Pool) : BInv p (genLimit p) (genAcc p) := fold_binv _ (binv_init p _)

theorem generateBlock_ok {p p' : Pool} {ob : Option Batch} (h : generateBlock p = (p', ob)) :
    ∃ s n, p' = { (genAcc p).pool with seqNo := s, nonBatch := n } ∧
      match ob with
      | none => (genAcc p).result = [] ∧ s = (genAcc p).pool.seqNo
      | some b => s = (genAcc p).pool.seqNo + 1 ∧
          b = { txs := (genAcc p).result.map (fun ptr => KV.get (genAcc p).pool.items ptr), height := (genAcc p).pool.seqNo + 1 } := by
  by_cases hc : (!(genAcc p).pool.timed && (genAcc p).result.isEmpty && decide ((genAcc p).pool.nonBatch > 0)) = true
  · cases h.symm.trans (if_pos hc : generateBlock p = _)
    simp only [Bool.and_eq_true, List.isEmpty_iff] at hc
    exact ⟨_, 0, rfl, hc.1.2, rfl⟩
  · cases h.symm.trans (if_neg hc : generateBlock p = _)
    exact ⟨_, _, rfl, rfl, rfl⟩

end Bxh.Mempool
