import Bxh.Proofs.GoRemove
import Bxh.Proofs.ExecStepsE
/-!
# What `setTimeoutList` leaves under each timeout height

`setTimeoutList` decides one action per transaction (`timeoutAct`), collects the additions and the removals per height in two
maps, and then writes every touched height once for the additions and once for the removals.  The map of removals is the map of
additions of the block with `add` and `remove` exchanged (`collectRems_eq_swap`), and both passes over the maps are `bookStep`, a
step that writes the list of its own height only: the value stored under `timeout-<d>` afterwards is `listAfter` of the value
before and the block's additions and removals for `d` (`setTimeoutList_at`), whatever the order in which Go walks its two maps.
-/
namespace Bxh.Exec

def addsAt (d : Nat) (acts : List TOAct) : List TxId :=
  acts.filterMap (fun a => match a with | .add th id => if th = d then some id else none | _ => none)

def remsAt (d : Nat) (acts : List TOAct) : List TxId :=
  acts.filterMap (fun a => match a with | .remove th id => if th = d then some id else none | _ => none)

def TOAct.swap : TOAct → TOAct
  | .add h id => .remove h id
  | .remove h id => .add h id
  | a => a

theorem collectRems_eq_swap (acts : List TOAct) (m0 : KV Nat (List TxId)) : collectRems acts m0 = collectAdds (acts.map TOAct.swap) m0 := by
  unfold collectRems collectAdds
  rw [List.foldl_map]
  congr; funext m a; cases a <;> rfl

theorem remsAt_eq_swap (d : Nat) (acts : List TOAct) : remsAt d acts = addsAt d (acts.map TOAct.swap) := by
  unfold remsAt addsAt
  rw [List.filterMap_map]
  congr; funext a; cases a <;> rfl

theorem count_addsAt (d : Nat) (acts : List TOAct) (t : TxId) : (addsAt d acts).count t = acts.count (.add d t) := by
  rw [addsAt, List.count_eq_countP, List.countP_filterMap, List.count_eq_countP]
  refine List.countP_congr fun a _ => ?_
  cases a with
  | add th id =>
    by_cases hd : th = d
    · subst hd; simp
    · simp [hd]
  | _ => simp

theorem mem_addsAt_iff {d : Nat} {acts : List TOAct} {t : TxId} : t ∈ addsAt d acts ↔ TOAct.add d t ∈ acts := by
  rw [← List.count_pos_iff, count_addsAt, List.count_pos_iff]

theorem mem_remsAt_iff {d : Nat} {acts : List TOAct} {t : TxId} : t ∈ remsAt d acts ↔ TOAct.remove d t ∈ acts := by
  rw [remsAt_eq_swap, mem_addsAt_iff, List.mem_map]
  constructor
  · rintro ⟨a, ha, e⟩; cases a <;> cases e; exact ha
  · exact fun h => ⟨_, h, rfl⟩

theorem collectAdds_get (acts : List TOAct) (m0 : KV Nat (List TxId)) (d : Nat) :
    KV.get (collectAdds acts m0) d = if addsAt d acts = [] then KV.get m0 d else some (KV.getD m0 d [] ++ addsAt d acts) := by
  unfold collectAdds addsAt
  induction acts generalizing m0 with
  | nil => rfl
  | cons a rest ih =>
    rw [List.foldl_cons, ih]
    cases a with
    | add th id =>
      by_cases hd : th = d
      · subst hd
        simp only [List.filterMap_cons, if_true, pushAt, KV.getD, KV.get_set_eq, Option.getD_some, List.cons_ne_nil, if_false,
          List.append_assoc, List.cons_append, List.nil_append]
        split
        · rename_i h0; rw [h0]
        · rfl
      · simp only [List.filterMap_cons, if_neg hd, pushAt, KV.getD, KV.get_set_ne _ _ _ _ hd]
    | _ => rfl

theorem collectAdds_nodup (acts : List TOAct) (m0 : KV Nat (List TxId)) (h : (m0.map (·.1)).Nodup) :
    ((collectAdds acts m0).map (·.1)).Nodup := by
  unfold collectAdds
  refine foldl_inv (P := fun m : KV Nat (List TxId) => (m.map (·.1)).Nodup) (fun m a hm => ?_) acts h
  cases a with
  | add th id => exact KV.set_nodup m th _ hm
  | _ => exact hm

def listAfter (v : Option Val) (A R : List TxId) : Option Val :=
  let v1 : Option Val :=
    if A = [] then v
    else some (.tlist (if curList v == [none] then A.map (fun t => some (TId.single t)) else curList v ++ A.map (fun t => some (TId.single t))))
  if R = [] then v1
  else some (.tlist (normList (R.foldl (fun acc id => (goRemove acc (.single id)).getD acc) (curList v1))))

/-- `addTimeoutList` for the ids `A` a block books under one height -/
def appendIds (cur : List (Option TId)) (A : List TxId) : List (Option TId) := appendTo cur (A.map (fun t => some (TId.single t)))

/-- `removeTimeoutList` for the ids `R` a block takes off one height -/
def removeIds (cur : List (Option TId)) (R : List TxId) : List (Option TId) :=
  normList (R.foldl (fun acc id => (goRemove acc (.single id)).getD acc) cur)

def bookAdds (cur : List (Option TId)) (A : List TxId) : List (Option TId) := if A = [] then cur else appendIds cur A

def bookRems (cur : List (Option TId)) (R : List TxId) : List (Option TId) := if R = [] then cur else removeIds cur R

theorem curList_listAfter (v : Option Val) (A R : List TxId) :
    curList (listAfter v A R) = bookRems (bookAdds (curList v) A) R := by
  unfold listAfter bookRems bookAdds
  rw [apply_ite curList, apply_ite curList]
  rfl

theorem count_map_single (A : List TxId) (t : TxId) :
    (A.map (fun t => some (TId.single t))).count (some (TId.single t)) = A.count t := by
  induction A with
  | nil => rfl
  | cons a rest ih =>
    rw [List.map_cons, List.count_cons, List.count_cons, ih]
    by_cases h : a = t
    · rw [h, beq_self_eq_true, beq_self_eq_true]
    · rw [beq_eq_false_iff_ne.mpr h, beq_eq_false_iff_ne.mpr (fun e => h (TId.single.inj (Option.some.inj e)))]

theorem count_bookAdds (cur : List (Option TId)) (A : List TxId) (t : TxId) :
    (bookAdds cur A).count (some (TId.single t)) = cur.count (some (TId.single t)) + A.count t := by
  unfold bookAdds appendIds
  split
  · rename_i hA; rw [hA]; rfl
  · rw [count_appendTo, count_map_single]

theorem wfl_bookAdds {cur : List (Option TId)} (h : WFL cur) (A : List TxId) : WFL (bookAdds cur A) := by
  unfold bookAdds appendIds
  split
  · exact h
  · exact wfl_appendTo h fun x hx => by obtain ⟨a, _, rfl⟩ := List.mem_map.mp hx; nofun

theorem foldl_goRemove_spec (R : List TxId) (cur : List (Option TId)) :
    (R.foldl (fun acc id => (goRemove acc (.single id)).getD acc) cur).Sublist cur ∧
    ∀ y, (∀ r ∈ R, y ≠ some (TId.single r)) →
      (R.foldl (fun acc id => (goRemove acc (.single id)).getD acc) cur).count y = cur.count y := by
  induction R generalizing cur with
  | nil => exact ⟨.refl _, fun _ _ => rfl⟩
  | cons r rest ih =>
    have step : ((goRemove cur (.single r)).getD cur).Sublist cur ∧
        ∀ y, y ≠ some (TId.single r) → ((goRemove cur (.single r)).getD cur).count y = cur.count y := by
      cases hg : goRemove cur (.single r) with
      | none => exact ⟨.refl _, fun _ _ => rfl⟩
      | some r' => exact goRemove_spec hg
    obtain ⟨i1, i2⟩ := ih ((goRemove cur (.single r)).getD cur)
    exact ⟨i1.trans step.1, fun y hy =>
      (i2 y (fun r' hr' => hy r' (List.mem_cons_of_mem _ hr'))).trans (step.2 y (hy r List.mem_cons_self))⟩

theorem foldl_goRemove_sublist (R : List TxId) (start : List (Option TId)) :
    (R.foldl (fun acc id => (goRemove acc (.single id)).getD acc) start).Sublist start :=
  (foldl_goRemove_spec R start).1

theorem foldl_goRemove_removes (R : List TxId) (start : List (Option TId)) (t : TxId)
    (hc : start.count (some (TId.single t)) ≤ 1) (ht : t ∈ R) :
    some (TId.single t) ∉ R.foldl (fun acc id => (goRemove acc (.single id)).getD acc) start := by
  induction R generalizing start with
  | nil => cases ht
  | cons r rest ih =>
    rw [List.foldl_cons]
    by_cases hr : r = t
    · subst hr
      rw [goRemove_count_le_one start _ hc, Option.getD_some]
      intro hm
      have h1 := List.count_erase_self (a := some (TId.single r)) (l := start)
      have h2 := List.count_pos_iff.mpr ((foldl_goRemove_sublist rest _).subset hm)
      omega
    · exact ih _ (Nat.le_trans ((foldl_goRemove_sublist [r] start).count_le _) hc) ((List.mem_cons.mp ht).resolve_left (Ne.symm hr))

theorem count_bookRems_le (cur : List (Option TId)) (R : List TxId) (t : TxId) :
    (bookRems cur R).count (some (TId.single t)) ≤ cur.count (some (TId.single t)) := by
  unfold bookRems removeIds
  split
  · exact Nat.le_refl _
  · rw [count_normList]; exact (foldl_goRemove_sublist R cur).count_le _

theorem count_bookRems_of_not_mem (cur : List (Option TId)) {R : List TxId} {t : TxId} (ht : t ∉ R) :
    (bookRems cur R).count (some (TId.single t)) = cur.count (some (TId.single t)) := by
  unfold bookRems removeIds
  split
  · rfl
  · rw [count_normList]
    exact (foldl_goRemove_spec R cur).2 _ (fun r hr e => ht (by cases e; exact hr))

theorem count_bookRems_of_mem {cur : List (Option TId)} {R : List TxId} {t : TxId} (ht : t ∈ R)
    (hc : cur.count (some (TId.single t)) ≤ 1) : (bookRems cur R).count (some (TId.single t)) = 0 := by
  unfold bookRems removeIds
  rw [if_neg (List.ne_nil_of_mem ht), count_normList]
  exact List.count_eq_zero.mpr (foldl_goRemove_removes R cur t hc ht)

theorem wfl_bookRems {cur : List (Option TId)} (h : WFL cur) (R : List TxId) : WFL (bookRems cur R) := by
  unfold bookRems removeIds
  split
  · exact h
  · have hs := foldl_goRemove_sublist R cur
    rcases h with rfl | h
    · -- what is left of `[none]` is `[none]` or nothing, and nothing is written back as `[none]`
      generalize R.foldl (fun acc id => (goRemove acc (.single id)).getD acc) [none] = res at hs ⊢
      cases hs with
      | cons _ h0 => cases h0; exact .inl rfl
      | cons_cons _ h0 => cases h0; exact .inl rfl
    · exact normList_wf _ (fun x hx => h x (hs.subset hx))

/-- `getTimeoutList` takes a list that begins with an empty element for empty, and the emptied list `[none]` is the only well-formed
one that does -/
theorem getTimeoutList_of_wf {l : Led} {d : Nat} (hw : WFV (l.getS (.timeout d))) :
    getTimeoutList l d = (curList (l.getS (.timeout d))).filterMap id := by
  unfold getTimeoutList curList
  cases hv : l.getS (.timeout d) with
  | none => rfl
  | some v =>
    cases v with
    | tlist lst =>
      rcases hw lst hv with rfl | h
      · rfl
      · cases lst with
        | nil => rfl
        | cons a rest => exact if_neg (fun hh => h a List.mem_cons_self (Option.some.inj (eq_of_beq hh)))
    | _ => rfl

theorem mem_getTimeoutList_of_count {l : Led} {d : Nat} {t : TxId} (hwf : WFV (l.getS (.timeout d)))
    (hc : 0 < listCount l d t) : TId.single t ∈ getTimeoutList l d := by
  rw [getTimeoutList_of_wf hwf, List.mem_filterMap]
  exact ⟨_, List.count_pos_iff.mp (by rw [curList_count]; exact hc), rfl⟩

theorem filterMap_bookAdds (cur : List (Option TId)) (A : List TxId) :
    (bookAdds cur A).filterMap id = cur.filterMap id ++ A.map TId.single := by
  have hA : (A.map (fun t => some (TId.single t))).filterMap id = A.map TId.single := by
    rw [List.filterMap_map]; exact congrFun (List.filterMap_eq_map (f := TId.single)) A
  unfold bookAdds appendIds appendTo
  split
  · rename_i h0; rw [h0]; exact (List.append_nil _).symm
  · split
    · rename_i hn; rw [eq_of_beq hn, hA]; rfl
    · rw [List.filterMap_append, hA]

def bookStep (g : List (Option TId) → List TxId → List (Option TId)) (l : Led) (p : Nat × List TxId) : Led :=
  l.setS (.timeout p.1) (some (.tlist (g (curList (l.getS (.timeout p.1))) p.2)))

theorem addStep_eq : addStep = bookStep appendIds := rfl
theorem remStep_eq : remStep = bookStep removeIds := rfl

theorem bookStep_local (g : List (Option TId) → List TxId → List (Option TId)) :
    KeyLocal (fun p : Nat × List TxId => p.1) (bookStep g) (fun d l l' => l.getS (.timeout d) = l'.getS (.timeout d)) where
  refl := fun _ _ => rfl
  trans := Eq.trans
  other := fun l p d hne => by unfold bookStep; rw [Led.getS_setS, if_neg (fun e => hne (Key.timeout.inj e))]

theorem bookStep_pass (g : List (Option TId) → List TxId → List (Option TId)) (acts : List TOAct) (l : Led) (k : Nat) :
    ((collectAdds acts []).foldl (bookStep g) l).getS (.timeout k) =
      if addsAt k acts = [] then l.getS (.timeout k) else some (.tlist (g (curList (l.getS (.timeout k))) (addsAt k acts))) := by
  have hget := collectAdds_get acts [] k
  by_cases hp : addsAt k acts = []
  · rw [if_pos hp] at hget ⊢
    exact (bookStep_local g).foldl_other k _ l (KV.get_eq_none_iff.mp hget)
  · rw [if_neg hp] at hget ⊢
    obtain ⟨l', h1, h2⟩ := (bookStep_local g).foldl_at _ l (collectAdds_nodup acts [] List.nodup_nil) (KV.mem_of_get hget)
    rw [h2, bookStep, Led.getS_setS, if_pos rfl, h1]
    rfl

theorem setTimeoutList_at (cfg : Cfg) (l : Led) (h : Nat) (txs : List Tx) (rcpts : List Rcpt) (d : Nat)
    (hna : ((txs.zip rcpts).map (fun p => timeoutAct cfg l h p.1 p.2)).contains .abort = false) :
    (setTimeoutList cfg l h txs rcpts).getS (.timeout d) =
      listAfter (l.getS (.timeout d))
        (addsAt d ((txs.zip rcpts).map (fun p => timeoutAct cfg l h p.1 p.2)))
        (remsAt d ((txs.zip rcpts).map (fun p => timeoutAct cfg l h p.1 p.2))) := by
  unfold setTimeoutList
  simp only [hna, Bool.false_eq_true, if_false]
  rw [addStep_eq, remStep_eq, collectRems_eq_swap, remsAt_eq_swap, bookStep_pass, bookStep_pass]
  rfl

/-- a record that cannot be read abandons the bookkeeping of the whole block -/
theorem setTimeoutList_abort (cfg : Cfg) (l : Led) (h : Nat) (txs : List Tx) (rcpts : List Rcpt) :
    ((txs.zip rcpts).map (fun p => timeoutAct cfg l h p.1 p.2)).contains .abort = false ∨ setTimeoutList cfg l h txs rcpts = l := by
  unfold setTimeoutList
  dsimp only
  cases ((txs.zip rcpts).map (fun p => timeoutAct cfg l h p.1 p.2)).contains .abort
  · exact .inl rfl
  · exact .inr rfl

theorem setTimeoutList_count_le (cfg : Cfg) (l : Led) (h : Nat) (txs : List Tx) (rcpts : List Rcpt) (d : Nat) (t : TxId) :
    listCount (setTimeoutList cfg l h txs rcpts) d t ≤
      listCount l d t + (addsAt d ((txs.zip rcpts).map (fun p => timeoutAct cfg l h p.1 p.2))).count t := by
  rcases setTimeoutList_abort cfg l h txs rcpts with hna | e
  · rw [← curList_count, ← curList_count, setTimeoutList_at cfg l h txs rcpts d hna, curList_listAfter]
    exact Nat.le_trans (count_bookRems_le ..) (Nat.le_of_eq (count_bookAdds ..))
  · rw [e]; exact Nat.le_add_right _ _

theorem setTimeoutList_count_of_not_mem {cfg : Cfg} {l : Led} {h : Nat} {txs : List Tx} {rcpts : List Rcpt} {d : Nat} {t : TxId}
    (hna : ((txs.zip rcpts).map (fun p => timeoutAct cfg l h p.1 p.2)).contains .abort = false)
    (hR : t ∉ remsAt d ((txs.zip rcpts).map (fun p => timeoutAct cfg l h p.1 p.2))) :
    listCount (setTimeoutList cfg l h txs rcpts) d t =
      listCount l d t + (addsAt d ((txs.zip rcpts).map (fun p => timeoutAct cfg l h p.1 p.2))).count t := by
  rw [← curList_count, ← curList_count, setTimeoutList_at cfg l h txs rcpts d hna, curList_listAfter, count_bookRems_of_not_mem _ hR,
    count_bookAdds]

theorem setTimeoutList_count_of_mem {cfg : Cfg} {l : Led} {h : Nat} {txs : List Tx} {rcpts : List Rcpt} {d : Nat} {t : TxId}
    (hna : ((txs.zip rcpts).map (fun p => timeoutAct cfg l h p.1 p.2)).contains .abort = false)
    (hR : t ∈ remsAt d ((txs.zip rcpts).map (fun p => timeoutAct cfg l h p.1 p.2)))
    (hc : listCount l d t + (addsAt d ((txs.zip rcpts).map (fun p => timeoutAct cfg l h p.1 p.2))).count t ≤ 1) :
    listCount (setTimeoutList cfg l h txs rcpts) d t = 0 := by
  rw [← curList_count, setTimeoutList_at cfg l h txs rcpts d hna, curList_listAfter]
  exact count_bookRems_of_mem hR (by rw [count_bookAdds, curList_count]; exact hc)

theorem setTimeoutList_wf (cfg : Cfg) {l : Led} (h : Nat) (txs : List Tx) (rcpts : List Rcpt) {d : Nat}
    (hw : WFV (l.getS (.timeout d))) : WFV ((setTimeoutList cfg l h txs rcpts).getS (.timeout d)) := by
  rcases setTimeoutList_abort cfg l h txs rcpts with hna | e
  · rw [setTimeoutList_at cfg l h txs rcpts d hna, wfv_iff, curList_listAfter]
    exact wfl_bookRems (wfl_bookAdds ((wfv_iff _).mp hw) _) _
  · rw [e]; exact hw

end Bxh.Exec
