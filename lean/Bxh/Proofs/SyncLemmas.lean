import Bxh.Model.Sync
/-!
The loop of `calcRangeHeight`.  The heights come in blocks of `fetch`; `(startNo + 1) * fetch` is the last height of the block that
`begin` lies in.
-/
namespace Bxh.Sync

theorem calcLoop_done {fetch end_ fuel begin startNo : Nat} (h : end_ < begin) :
    calcLoop fetch end_ fuel begin startNo = [] := by
  cases fuel with
  | zero => rfl
  | succ n => exact if_neg (Nat.not_le_of_gt h)

theorem calcLoop_block {fetch end_ begin startNo : Nat} (fuel : Nat) (h : begin ≤ end_) (hc : (startNo + 1) * fetch ≤ end_) :
    calcLoop fetch end_ (fuel + 1) begin startNo =
      ⟨begin, (startNo + 1) * fetch⟩ :: calcLoop fetch end_ fuel ((startNo + 1) * fetch + 1) (startNo + 1) := by
  simp only [calcLoop, h, if_true, Nat.not_lt_of_le hc, if_false]

theorem calcLoop_last {fetch end_ begin startNo : Nat} (fuel : Nat) (h : begin ≤ end_) (hc : end_ < (startNo + 1) * fetch) :
    calcLoop fetch end_ (fuel + 1) begin startNo = [⟨begin, end_⟩] := by
  simp only [calcLoop, h, if_true, hc, calcLoop_done (Nat.lt_succ_self end_)]

theorem range'_glue {a b c : Nat} (h1 : a ≤ b) (h2 : b ≤ c) :
    List.range' a (b - a) ++ List.range' b (c - b) = List.range' a (c - a) := by
  have := List.range'_append (s := a) (m := b - a) (n := c - b) (step := 1)
  rwa [Nat.one_mul, Nat.add_sub_cancel' h1, Nat.add_comm (b - a), Nat.sub_add_sub_cancel h2 h1] at this

theorem calcLoop_spec (fetch end_ : Nat) (hf : 0 < fetch) :
    ∀ (fuel begin startNo : Nat), startNo * fetch ≤ begin → begin ≤ (startNo + 1) * fetch → end_ < begin + fuel →
      heights (calcLoop fetch end_ fuel begin startNo) = List.range' begin (end_ + 1 - begin) ∧
      ∀ r ∈ calcLoop fetch end_ fuel begin startNo, r.b ≤ r.e ∧ r.e ≤ end_ ∧ begin ≤ r.b ∧ r.e ≤ r.b + fetch := by
  intro fuel
  induction fuel with
  | zero =>
    intro begin startNo _ _ (hfu : end_ < begin)
    rw [Nat.sub_eq_zero_of_le hfu]
    exact ⟨rfl, fun r hr => nomatch hr⟩
  | succ n ih =>
    intro begin startNo hlo hhi hfu
    -- the block of `begin` ends at most `fetch` heights after it
    have hblk : (startNo + 1) * fetch ≤ begin + fetch := Nat.succ_mul .. ▸ Nat.add_le_add_right hlo fetch
    by_cases hb : begin ≤ end_
    · by_cases hc : (startNo + 1) * fetch ≤ end_
      · rw [calcLoop_block n hb hc]
        obtain ⟨ih1, ih2⟩ := ih ((startNo + 1) * fetch + 1) (startNo + 1) (Nat.le_succ _)
          (Nat.succ_mul (startNo + 1) fetch ▸ Nat.add_le_add_left hf _) (by omega)
        refine ⟨?_, fun r hr => ?_⟩
        · show List.range' begin ((startNo + 1) * fetch + 1 - begin) ++ heights _ = _
          rw [ih1]
          exact range'_glue (Nat.le_succ_of_le hhi) (Nat.succ_le_succ hc)
        · rcases List.mem_cons.mp hr with rfl | hr
          · exact ⟨hhi, hc, Nat.le_refl _, hblk⟩
          · obtain ⟨r1, r2, r3, r4⟩ := ih2 r hr
            exact ⟨r1, r2, Nat.le_trans (Nat.le_succ_of_le hhi) r3, r4⟩
      · rw [calcLoop_last n hb (Nat.lt_of_not_le hc)]
        refine ⟨List.append_nil _, fun r hr => ?_⟩
        cases List.mem_singleton.mp hr
        exact ⟨hb, Nat.le_refl _, Nat.le_refl _, Nat.le_trans (Nat.le_of_not_le hc) hblk⟩
    · rw [calcLoop_done (Nat.lt_of_not_le hb), Nat.sub_eq_zero_of_le (Nat.lt_of_not_le hb)]
      exact ⟨rfl, fun r hr => nomatch hr⟩

end Bxh.Sync
