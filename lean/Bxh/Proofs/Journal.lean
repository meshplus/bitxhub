import Bxh.Proofs.ExecLemmas
/-!
# The transaction journal is faithful

Every write of the modelled contracts goes through `Led.setS` / `Led.addS` / `Led.setBal`
(journaled) or `Led.post` (events, not journaled).  `Steps l l'` says that `l'` is reached from
`l` by such writes only; `Steps.faithful` shows that undoing the whole journal of `l'` then gives
back the storage and balances that undoing the journal of `l` gives.  With the footprints of the
contract functions (`Writes.steps`, `ExecSteps.lean`) this yields: `RevertToSnapshot` of the snapshot
taken at the start of a transaction restores exactly the state in which the transaction started
(`Body.revert_same`, `ExecBlock.lean`).
-/
namespace Bxh.Exec

/-- journal and events are not compared -/
def Led.same (a b : Led) : Prop := (∀ k, a.getS k = b.getS k) ∧ (∀ x, a.getBal x = b.getBal x)

theorem Led.same_refl (a : Led) : a.same a := ⟨fun _ => rfl, fun _ => rfl⟩
theorem Led.same_symm {a b : Led} (h : a.same b) : b.same a := ⟨fun k => (h.1 k).symm, fun x => (h.2 x).symm⟩
theorem Led.same_trans {a b c : Led} (h1 : a.same b) (h2 : b.same c) : a.same c :=
  ⟨fun k => (h1.1 k).trans (h2.1 k), fun x => (h1.2 x).trans (h2.2 x)⟩

theorem Led.getS_undo1 (l : Led) (k k' : Key) (prev : Option Val) :
    (l.undo1 (.storage k prev)).getS k' = if k = k' then prev else l.getS k' := by
  cases prev with
  | none => exact KV.get_erase ..
  | some v => exact KV.get_set ..

theorem undo1_same {a b : Led} (c : Change) (h : a.same b) : (a.undo1 c).same (b.undo1 c) := by
  cases c with
  | storage k prev =>
    refine ⟨fun k' => ?_, fun x => ?_⟩
    · rw [Led.getS_undo1, Led.getS_undo1, h.1]
    · cases prev <;> exact h.2 x
  | balance acc v =>
    -- undoing a balance change is setting the balance, the journal aside
    refine ⟨h.1, fun x => ?_⟩
    show (a.setBal acc v).getBal x = (b.setBal acc v).getBal x
    rw [Led.getBal_setBal, Led.getBal_setBal, h.2]

theorem foldl_undo_same (j : List Change) {a b : Led} (h : a.same b) :
    (j.foldl Led.undo1 a).same (j.foldl Led.undo1 b) := by
  induction j generalizing a b with
  | nil => exact h
  | cons c rest ih => exact ih (undo1_same c h)

/-- undo the whole journal (`RevertToSnapshot(0)` on a ledger whose journal started empty) -/
def Led.undoAll (l : Led) : Led := l.journal.foldl Led.undo1 { l with journal := [] }

theorem revert_nil (l : Led) (n : Nat) (h : l.journal = []) : l.revert n = l := by
  -- nothing to undo: what is left is `l` with its own journal put back
  unfold Led.revert
  simp only [h, List.take_nil, List.drop_nil, List.foldl_nil]
  rw [← h]

theorem revert_zero (l : Led) : l.revert 0 = l.undoAll := by
  unfold Led.revert Led.undoAll
  simp

def Faithful (base l : Led) : Prop := l.undoAll.same base

theorem faithful_self (l : Led) (h : l.journal = []) : Faithful l l := by
  unfold Faithful Led.undoAll
  rw [h]
  exact ⟨fun _ => rfl, fun _ => rfl⟩

inductive Steps : Led → Led → Prop
  | refl (l : Led) : Steps l l
  | setS {l l' : Led} (k : Key) (v : Option Val) : Steps l l' → Steps l (l'.setS k v)
  | setBal {l l' : Led} (a : String) (v : Int) : Steps l l' → Steps l (l'.setBal a v)
  | post {l l' : Led} (e : Ev) : Steps l l' → Steps l (l'.post e)

/-- **the journal is faithful**: each write puts on the journal the change that undoes it -/
theorem Steps.faithful {base l l' : Led} (h : Steps l l') (hf : Faithful base l) : Faithful base l' := by
  have step : ∀ {l1 l2 : Led} {c : Change}, l2.journal = c :: l1.journal →
      (Led.undo1 { l2 with journal := [] } c).same { l1 with journal := [] } → Faithful base l1 → Faithful base l2 := by
    intro l1 l2 c hj hu h1
    unfold Faithful Led.undoAll at *
    rw [hj, List.foldl_cons]
    exact Led.same_trans (foldl_undo_same _ hu) h1
  induction h with
  | refl => exact hf
  | @setS l1 k v _ ih =>
    refine step rfl ⟨fun k' => ?_, fun x => ?_⟩ ih
    · rw [Led.getS_undo1]
      show (if k = k' then l1.getS k else (l1.setS k v).getS k') = l1.getS k'
      rw [Led.getS_setS]
      by_cases hk : k = k'
      · rw [if_pos hk, hk]
      · rw [if_neg hk, if_neg hk]
    · generalize KV.get l1.store k = prev
      cases prev <;> rfl
  | @setBal l1 a v _ ih =>
    refine step rfl ⟨fun _ => rfl, fun x => ?_⟩ ih
    show ((l1.setBal a v).setBal a (l1.getBal a)).getBal x = l1.getBal x
    rw [Led.getBal_setBal, Led.getBal_setBal]
    by_cases ha : a = x
    · rw [if_pos ha, ha]
    · rw [if_neg ha, if_neg ha]
  | @post l1 e _ ih =>
    unfold Faithful Led.undoAll at *
    exact Led.same_trans (foldl_undo_same _ (b := { l1 with journal := [] }) ⟨fun _ => rfl, fun _ => rfl⟩) ih

theorem Steps.setIC {l l' : Led} (s : SvcId) (i : IC) (h : Steps l l') : Steps l (setIC l' s i) := Steps.setS _ _ h

theorem Steps.events_prefix {l l' : Led} (h : Steps l l') : ∃ es, l'.events = l.events ++ es := by
  induction h with
  | refl => exact ⟨[], by simp⟩
  | setS k v _ ih => exact ih
  | setBal x v _ ih => exact ih
  | post e _ ih => obtain ⟨es, he⟩ := ih; exact ⟨es ++ [e], by simp [Led.post, he]⟩

end Bxh.Exec
