import Bxh.Model.Order
import Bxh.Prelude.Fold
/-!
# Histories of the ordering node and its executor (C20)

`Op` / `Sys` / `step` / `run`: what raft, the executor and crashes do to a node, one operation at a time.  `Good`: the minted queue
continues the ledger; every operation keeps it.
-/
namespace Bxh.Order.Apply

/-- what the ordering node and the executor do, as seen from outside: raft hands over committed entries, a
snapshot may be taken, the executor reports an executed height back, the executor takes the next minted block,
the process crashes and restarts (the ledger keeps the height it had) -/
inductive Op
  | ready (es : List Entry)
  | snapshot
  | report (h : Nat)
  | execute
  | restart
  | install (idx height : Nat)     -- raft hands over a snapshot; catch-up through the syncer
  | hardState (t v c : Nat)        -- a Ready without entries or snapshot: a higher term seen, a vote granted
deriving Repr

structure Sys where
  n : Node
  ledger : Nat                  -- height of the last block the executor took
  delivered : List Nat := []    -- every height the executor took, in order
deriving Repr

def step (s : Sys) : Op → Sys
  | .ready es => { s with n := ready s.n es }
  | .snapshot => { s with n := snapshot s.n }
  | .report h => { s with n := report s.n h }
  | .execute =>
    match execute s.n with
    | (n', some h) => { n := n', ledger := h, delivered := s.delivered ++ [h] }
    | (n', none) => { s with n := n' }
  | .restart => { s with n := (restart s.n s.ledger).1 }
  | .install idx height => { s with n := installSnap s.n idx height s.ledger }
  | .hardState t v c => { s with n := setHardState s.n t v c }

def run (s : Sys) (ops : List Op) : Sys := ops.foldl step s

/-- the minted-but-unexecuted blocks are exactly the heights after the ledger's, in order, and `lastExec` is the last of them -/
def Good (n : Node) (ledger : Nat) : Prop :=
  n.queue = List.range' (ledger + 1) n.queue.length ∧ n.lastExec = ledger + n.queue.length

theorem Good.mint {n n' : Node} {L : Nat} (h : Good n L) (hq : n'.queue = n.queue ++ [n.lastExec + 1])
    (hl : n'.lastExec = n.lastExec + 1) : Good n' L := by
  obtain ⟨gq, gl⟩ := h
  unfold Good
  rw [hq, hl, List.length_append, List.length_singleton, List.range'_1_concat, ← gq, gl]
  exact ⟨by rw [Nat.add_right_comm], Nat.add_assoc ..⟩

theorem publish1_good (n : Node) (e : Entry) (L : Nat) (h : Good n L) : Good (publish1 n e) L := by
  unfold publish1
  split
  · exact h
  · split
    · exact h
    · split
      · exact h
      · rename_i ht _ _ h2
        cases Decidable.not_not.mp h2
        exact h.mint rfl rfl

theorem publish_good (es : List Entry) (n : Node) (L : Nat) (h : Good n L) : Good (publish n es) L :=
  foldl_inv (P := (Good · L)) (fun n e => publish1_good n e L) es h

theorem ready_good (n : Node) (es : List Entry) (L : Nat) (h : Good n L) : Good (ready n es) L :=
  publish_good _ _ L h

theorem snapshot_good (n : Node) (L : Nat) (h : Good n L) : Good (snapshot n) L := by
  unfold snapshot; split <;> exact h

theorem report_good (n : Node) (x L : Nat) (h : Good n L) : Good (report n x) L := by
  unfold report; split <;> exact h

theorem restart_good (n : Node) (L : Nat) : Good (restart n L).1 L :=
  publish_good _ _ L ⟨rfl, rfl⟩

theorem installSnap_good (n : Node) (idx height ledger L : Nat) (h : Good n L) : Good (installSnap n idx height ledger) L := by
  refine foldl_inv (P := (Good · L)) (fun m x hm => ?_) _ h
  split
  · rename_i hx; cases hx; exact hm.mint rfl rfl
  · exact hm

theorem step_execute (s : Sys) : step s .execute =
    match s.n.queue with
    | [] => s
    | h :: rest => { n := { s.n with queue := rest }, ledger := h, delivered := s.delivered ++ [h] } := by
  simp only [step, execute]
  cases s.n.queue <;> rfl

theorem publish1_hs (m : Node) (e : Entry) : (publish1 m e).hs = m.hs := by
  unfold publish1
  split
  · rfl
  · split
    · rfl
    · split <;> rfl

theorem publish_hs (es : List Entry) (m : Node) : (publish m es).hs = m.hs :=
  foldl_inv (P := fun x => x.hs = m.hs) (fun x e h => (publish1_hs x e).trans h) es rfl

def Inv (l0 : Nat) (s : Sys) : Prop :=
  Good s.n s.ledger ∧ l0 ≤ s.ledger ∧ s.delivered = List.range' (l0 + 1) (s.ledger - l0)

theorem step_inv (l0 : Nat) (s : Sys) (op : Op) (h : Inv l0 s) : Inv l0 (step s op) := by
  obtain ⟨hg, hle, hd⟩ := h
  cases op with
  | ready es => exact ⟨ready_good _ _ _ hg, hle, hd⟩
  | snapshot => exact ⟨snapshot_good _ _ hg, hle, hd⟩
  | report x => exact ⟨report_good _ _ _ hg, hle, hd⟩
  | restart => exact ⟨restart_good _ _, hle, hd⟩
  | install idx height => exact ⟨installSnap_good _ _ _ _ _ hg, hle, hd⟩
  | hardState t v c => exact ⟨hg, hle, hd⟩
  | execute =>
    rw [step_execute]
    obtain ⟨gq, gl⟩ := hg
    cases hq : s.n.queue with
    | nil => exact ⟨⟨gq, gl⟩, hle, hd⟩
    | cons x rest =>
      -- the executor only ever takes the height right after the one it has
      rw [hq, List.length_cons, List.range'_succ] at gq
      rw [hq, List.length_cons, ← Nat.add_assoc, Nat.add_right_comm] at gl
      obtain ⟨rfl, g2⟩ := List.cons.inj gq
      refine ⟨⟨g2, gl⟩, Nat.le_succ_of_le hle, ?_⟩
      show s.delivered ++ [s.ledger + 1] = List.range' (l0 + 1) (s.ledger + 1 - l0)
      rw [Nat.succ_sub hle, List.range'_1_concat, ← hd, Nat.add_right_comm, Nat.add_sub_cancel' hle]

theorem run_inv (l0 : Nat) (ops : List Op) (s : Sys) (h : Inv l0 s) : Inv l0 (run s ops) :=
  foldl_inv (P := Inv l0) (fun s op => step_inv l0 s op) ops h

end Bxh.Order.Apply
