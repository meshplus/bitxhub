import Bxh.Proofs.ExecLemmas
/-!
# The contract functions never put a one-to-one id on a timeout list

`StepsT` is reachability by storage writes and event posts in which every write to a `timeout-<d>` key stores a list whose
one-to-one entries (`TId.single`) were all on the list stored there before.  Everything `HandleIBTP` and the modelled BVM
calls do is of that kind: the transaction manager touches the timeout lists only for *groups* (`tmAddTimeout` /
`tmRemoveTimeout` with a global id).  The one-to-one entries are the executor's business (`setTimeoutList`, after the block's
transactions).  The file also holds the vocabulary everything about timeout lists is stated in: `listedAt`, `listCount`.
-/
namespace Bxh.Exec

/-- the one-to-one transaction `t` is an entry of the list stored under `timeout-<d>` -/
def listedAt (l : Led) (d : Nat) (t : TxId) : Prop :=
  ∃ lst, l.getS (.timeout d) = some (.tlist lst) ∧ some (TId.single t) ∈ lst

theorem listedAt_congr {l l' : Led} {d : Nat} {t : TxId} (h : l'.getS (.timeout d) = l.getS (.timeout d)) :
    listedAt l' d t ↔ listedAt l d t := by
  unfold listedAt; rw [h]

theorem listedAt_of_mem_getTimeoutList {l : Led} {d : Nat} {t : TxId} (h : TId.single t ∈ getTimeoutList l d) : listedAt l d t := by
  unfold getTimeoutList at h
  split at h
  · rename_i lst hl
    split at h
    · cases h
    · obtain ⟨a, ha, e⟩ := List.mem_filterMap.mp h
      exact ⟨lst, hl, e ▸ ha⟩
  · cases h

/-- how often the one-to-one transaction `t` occurs on the list stored under `timeout-<d>` -/
def listCount (l : Led) (d : Nat) (t : TxId) : Nat :=
  match l.getS (.timeout d) with
  | some (.tlist lst) => lst.count (some (TId.single t))
  | _ => 0

theorem listCount_congr {l l' : Led} {d : Nat} {t : TxId} (h : l'.getS (.timeout d) = l.getS (.timeout d)) :
    listCount l' d t = listCount l d t := by
  unfold listCount; rw [h]

theorem listCount_of {l : Led} {d : Nat} {lst : List (Option TId)} (h : l.getS (.timeout d) = some (.tlist lst)) (t : TxId) :
    listCount l d t = lst.count (some (TId.single t)) := by
  unfold listCount; rw [h]

theorem listedAt_iff_count {l : Led} {d : Nat} {t : TxId} : listedAt l d t ↔ 0 < listCount l d t := by
  unfold listedAt listCount
  constructor
  · rintro ⟨lst, e, hm⟩
    rw [e]; exact List.count_pos_iff.mpr hm
  · intro h
    split at h
    · rename_i lst e; exact ⟨lst, e, List.count_pos_iff.mp h⟩
    · omega

theorem listCount_eq_zero {l : Led} {d : Nat} {t : TxId} : listCount l d t = 0 ↔ ¬ listedAt l d t := by
  rw [listedAt_iff_count]; omega

inductive StepsT : Led → Led → Prop
  | refl (l : Led) : StepsT l l
  | setO {l l' : Led} (k : Key) (v : Option Val) (hk : ∀ d, k ≠ .timeout d) : StepsT l l' → StepsT l (l'.setS k v)
  | setT {l l' : Led} (d : Nat) (lst : List (Option TId)) (hcnt : ∀ t, lst.count (some (TId.single t)) ≤ listCount l' d t) :
      StepsT l l' → StepsT l (l'.setS (.timeout d) (some (.tlist lst)))
  | post {l l' : Led} (e : Ev) : StepsT l l' → StepsT l (l'.post e)

theorem StepsT.setIC {l l' : Led} (s : SvcId) (i : IC) (h : StepsT l l') : StepsT l (setIC l' s i) :=
  StepsT.setO _ _ (by intro d e; cases e) h

theorem StepsT.count {l l' : Led} (h : StepsT l l') (d : Nat) (t : TxId) : listCount l' d t ≤ listCount l d t := by
  induction h with
  | refl => exact Nat.le_refl _
  | setO k v hk _ ih =>
    unfold listCount
    rw [Led.getS_setS, if_neg (hk d)]
    exact ih
  | setT d' lst hcnt _ ih =>
    unfold listCount
    rw [Led.getS_setS]
    by_cases hd : d' = d
    · subst hd
      rw [if_pos rfl]
      exact Nat.le_trans (hcnt t) ih
    · rw [if_neg (fun e => hd (Key.timeout.inj e))]
      exact ih
  | post e _ ih => exact ih

theorem StepsT.listed {l l' : Led} (h : StepsT l l') (d : Nat) (t : TxId) (hl : listedAt l' d t) : listedAt l d t := by
  rw [listedAt_iff_count] at *
  exact Nat.lt_of_lt_of_le hl (h.count d t)

end Bxh.Exec
