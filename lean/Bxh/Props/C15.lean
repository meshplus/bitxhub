import Bxh.Model.Gov
import Bxh.Proofs.GovTable
/-!
# C15 — proposals conclude only by their voting rule, once, with one vote per admin

Theorems about `Bxh.Gov` (the decision function of `MakeStrategyDecision` and the ballot state
machine of `Governance.Vote` / `setVote` / `countVote` / `endProposal`), for every proposal state,
voter, ballot and strategy expression of the modelled fragment; then about `Bxh.GovTable`, the statuses
of all proposals under the operations that touch more than one of them.
-/
namespace Bxh.Props.C15
open Bxh.Gov

/-- bookkeeping invariant of a proposal -/
structure WF (p : Proposal) : Prop where
  nodup : (p.ballots.map (·.1)).Nodup
  eligible : ∀ b ∈ p.ballots, (p.electorate.find? (·.1 == b.1)).isSome
  approves : p.approveNum = (p.ballots.filter (fun b => b.2 = .approve)).length
  againsts : p.againstNum = (p.ballots.filter (fun b => b.2 = .reject)).length

theorem wf_new (el : List (String × Nat)) (n a : Nat) (e : Expr) (sp : Bool) :
    WF { electorate := el, initial := n, available := a, expr := e, special := sp } :=
  ⟨by simp, by simp, by simp, by simp⟩

def withBallot (p : Proposal) (voter : String) (e : String × Nat) (bb : Ballot) : Proposal :=
  { p with
    ballots := p.ballots ++ [(voter, bb)],
    approveNum := if bb = .approve then p.approveNum + 1 else p.approveNum,
    againstNum := if bb = .reject then p.againstNum + 1 else p.againstNum,
    superVoted := p.superVoted || e.2 == superWeight }

theorem setVote_ok {p p' : Proposal} {voter : String} {b : Option Ballot} (h : setVote p voter b = .ok p') :
    p.status = .proposed ∧ ∃ e bb, p.electorate.find? (·.1 == voter) = some e ∧
      p.ballots.find? (·.1 == voter) = none ∧ b = some bb ∧ p' = withBallot p voter e bb := by
  revert h
  fun_cases setVote p voter b with
  | case1 | case2 | case3 | case4 => nofun  -- the four refusals
  | case5 hst e he hr bb =>
    rintro ⟨⟩
    exact ⟨Decidable.not_not.mp hst, e, bb, he, Option.not_isSome_iff_eq_none.mp hr, rfl, rfl⟩

theorem vote_ok {p p' : Proposal} {voter : String} {adm : Bool} {b : Option Ballot} (h : vote p voter adm b = .ok p') :
    adm = true ∧ p.status = .proposed ∧ ∃ e bb, p.electorate.find? (·.1 == voter) = some e ∧
      p.ballots.find? (·.1 == voter) = none ∧ b = some bb ∧ p' = countVote (withBallot p voter e bb) := by
  revert h
  fun_cases vote p voter adm b with
  | case1 | case2 => nofun
  | case3 hadm p1 hs =>
    rintro ⟨⟩
    obtain ⟨hst, e, bb, he, hnew, hb, rfl⟩ := setVote_ok hs
    exact ⟨by simpa using hadm, hst, e, bb, he, hnew, hb, rfl⟩

theorem decide_approved_iff (e : Expr) (a r t av : Nat) : Gov.decide e a r t av = .approved ↔ e.eval a r t = true := by
  fun_cases Gov.decide e a r t av <;> simp [*]

theorem decide_rejected_iff (e : Expr) (a r t av : Nat) :
    Gov.decide e a r t av = .rejected ↔ (e.eval a r t = false ∧ e.eval (maxApprove av r) r t = false) := by
  fun_cases Gov.decide e a r t av <;> simp [*]

def countStatus (p : Proposal) : PStatus :=
  if (p.special && !p.superVoted) = true then p.status
  else match Gov.decide p.expr p.approveNum p.againstNum p.initial p.available with
    | .approved => .approved
    | .rejected => .rejected
    | .open => p.status

theorem countVote_eq (p : Proposal) : countVote p = { p with status := countStatus p } := by
  unfold countStatus
  fun_cases countVote p <;> simp [*]

theorem countVote_status (p : Proposal) : (countVote p).status = countStatus p := by rw [countVote_eq]

theorem countStatus_concludes {p : Proposal} (hp : p.status = .proposed) :
    (countStatus p = .approved → Gov.decide p.expr p.approveNum p.againstNum p.initial p.available = .approved) ∧
    (countStatus p = .rejected → Gov.decide p.expr p.approveNum p.againstNum p.initial p.available = .rejected) := by
  fun_cases countStatus p <;> simp [*]

theorem WF.withBallot {p : Proposal} (hwf : WF p) {voter : String} {e : String × Nat} (bb : Ballot)
    (he : p.electorate.find? (·.1 == voter) = some e) (hnew : voter ∉ p.ballots.map (·.1)) : WF (withBallot p voter e bb) := by
  -- the tally of either ballot value stays one: the new ballot is counted under its own value only
  have tally (v : Ballot) {n : Nat} (hn : n = (p.ballots.filter (fun b => b.2 = v)).length) :
      (if bb = v then n + 1 else n) = ((p.ballots ++ [(voter, bb)]).filter (fun b => b.2 = v)).length := by
    rw [List.filter_append, List.length_append, ← hn]
    by_cases h : bb = v <;> simp [h]
  refine ⟨?_, fun x hx => ?_, tally .approve hwf.approves, tally .reject hwf.againsts⟩
  · show ((p.ballots ++ [(voter, bb)]).map (·.1)).Nodup
    rw [List.map_append, List.nodup_append]
    refine ⟨hwf.nodup, by simp, fun a ha c hc hac => hnew ?_⟩
    cases List.mem_singleton.mp hc
    cases hac
    exact ha
  · rcases List.mem_append.mp hx with hx | hx
    · exact hwf.eligible x hx
    · cases List.mem_singleton.mp hx
      exact Option.isSome_iff_exists.mpr ⟨e, he⟩

theorem WF.countVote {p : Proposal} (hwf : WF p) : WF (countVote p) := by
  rw [countVote_eq]; exact ⟨hwf.nodup, hwf.eligible, hwf.approves, hwf.againsts⟩

/-- **one vote per administrator, by eligible administrators only**: an accepted vote comes from an
available governance admin of the electorate frozen at submission who has no ballot yet; it adds
exactly that ballot, and the bookkeeping invariant is kept (so each admin counts at most once and
the tallies are the ballot counts) -/
theorem C15_one_vote_per_admin (p p' : Proposal) (voter : String) (adm : Bool) (b : Option Ballot)
    (hwf : WF p) (h : vote p voter adm b = .ok p') :
    adm = true ∧ (p.electorate.find? (·.1 == voter)).isSome ∧ voter ∉ p.ballots.map (·.1) ∧
    (∃ bb, b = some bb ∧ p'.ballots = p.ballots ++ [(voter, bb)]) ∧ WF p' := by
  obtain ⟨hadm, _, e, bb, he, hnew, rfl, rfl⟩ := vote_ok h
  have hnotin : voter ∉ p.ballots.map (·.1) := by
    rintro hm
    obtain ⟨x, hx, hxe⟩ := List.mem_map.mp hm
    exact List.find?_eq_none.mp hnew x hx (by simp [hxe])
  refine ⟨hadm, Option.isSome_iff_exists.mpr ⟨e, he⟩, hnotin, ⟨bb, rfl, ?_⟩, (hwf.withBallot bb he hnotin).countVote⟩
  rw [countVote_eq]; rfl

/-- **refusals**: a vote is refused for a caller the role contract does not confirm as an available
governance admin, for an admin outside the frozen electorate, for a second ballot of the same
admin, on a proposal that is not open, and for a ballot that is neither approve nor reject; a
refused vote returns no proposal at all (nothing is changed) -/
theorem C15_refusals (p : Proposal) (voter : String) (b : Option Ballot) :
    vote p voter false b = .error .notAvailableAdmin ∧
    (p.status ≠ .proposed → vote p voter true b = .error .ended) ∧
    (p.status = .proposed → p.electorate.find? (·.1 == voter) = none → vote p voter true b = .error .noPermission) ∧
    (p.status = .proposed → (p.electorate.find? (·.1 == voter)).isSome → (p.ballots.find? (·.1 == voter)).isSome →
      vote p voter true b = .error .repeatVote) := by
  refine ⟨rfl, ?_, ?_, ?_⟩
  · intro h; simp [vote, setVote, h]
  · intro h1 h2; simp [vote, setVote, h1, h2]
  · intro h1 h2 h3
    cases he : p.electorate.find? (·.1 == voter) with
    | none => rw [he] at h2; cases h2
    | some e => simp [vote, setVote, h1, he, h3]

/-- **approved only by the rule**: a vote concludes a proposal as approved only when the recorded
strategy expression holds on the tallies of distinct eligible approvals / rejections and the
electorate size at creation -/
theorem C15_approved_only_if_rule (p p' : Proposal) (voter : String) (adm : Bool) (b : Option Ballot)
    (h : vote p voter adm b = .ok p') (ha : p'.status = .approved) :
    p.status = .proposed ∧ p'.expr.eval p'.approveNum p'.againstNum p'.initial = true := by
  obtain ⟨_, hst, e, bb, _, _, _, rfl⟩ := vote_ok h
  rw [countVote_status] at ha; rw [countVote_eq]
  exact ⟨hst, (decide_approved_iff ..).mp ((countStatus_concludes (p := withBallot p voter e bb) hst).1 ha)⟩

/-- **rejected by the tally only when approval is unreachable**: a vote concludes a proposal as
rejected only when the expression fails on the tallies and would still fail if every available
elector who has not rejected approved (`maxApprove`: available − rejections, as an unsigned 64-bit
difference like in the code) -/
theorem C15_rejected_only_if_unreachable (p p' : Proposal) (voter : String) (adm : Bool) (b : Option Ballot)
    (h : vote p voter adm b = .ok p') (hr : p'.status = .rejected) :
    p'.expr.eval p'.approveNum p'.againstNum p'.initial = false ∧
    p'.expr.eval (maxApprove p'.available p'.againstNum) p'.againstNum p'.initial = false := by
  obtain ⟨_, hst, e, bb, _, _, _, rfl⟩ := vote_ok h
  rw [countVote_status] at hr; rw [countVote_eq]
  exact (decide_rejected_iff ..).mp ((countStatus_concludes (p := withBallot p voter e bb) hst).2 hr)

/-- **a special proposal waits for a super administrator**: as long as no ballot of a
super-administrator (weight 2) is recorded, a vote leaves a special proposal open -/
theorem C15_special_needs_super_admin (p p' : Proposal) (voter : String) (adm : Bool) (b : Option Ballot)
    (h : vote p voter adm b = .ok p') (hs : p.special = true) (hnv : p'.superVoted = false) :
    p'.status = .proposed := by
  obtain ⟨_, hst, e, bb, _, _, _, rfl⟩ := vote_ok h
  rw [countVote_eq] at hnv; rw [countVote_status]
  have hw : ((withBallot p voter e bb).special && !(withBallot p voter e bb).superVoted) = true := by
    rw [show (withBallot p voter e bb).special = p.special from rfl, hs, hnv]; rfl
  exact (if_pos hw).trans hst

/-- **finality**: an approved or rejected proposal refuses every further vote and every forced end
(withdrawal, end by a manager); nothing of it can change again through these entry points -/
theorem C15_finality (p : Proposal) (voter : String) (adm : Bool) (b : Option Ballot)
    (h : p.status = .approved ∨ p.status = .rejected) :
    (vote p voter adm b = .error .ended ∨ vote p voter adm b = .error .notAvailableAdmin) ∧ endProposal p = none := by
  refine ⟨?_, by simp [endProposal, h]⟩
  cases adm
  · exact .inr (C15_refusals p voter b).1
  · exact .inl ((C15_refusals p voter b).2.1 (by rcases h with h | h <;> simp [h]))

/-- the decision never approves and rejects at once, and with the default strategy a proposal
of `t` electors is approved exactly when more than half of them approved -/
theorem C15_simple_majority (a r t av : Nat) :
    Gov.decide simpleMajority a r t av = .approved ↔ 2 * a > t := by
  rw [decide_approved_iff]
  show decide ((0 : Int) + 10 * a + 0 * r + 0 * t > 0 + 0 * a + 0 * r + 5 * t) = true ↔ _
  rw [decide_eq_true_iff]
  omega

/-- non-vacuity: four electors (one super admin), simple majority; three approvals conclude, a
fourth vote and a repeated vote are refused -/
example :
    let p0 : Proposal := { electorate := [("adm0", 2), ("adm1", 1), ("adm2", 1), ("adm3", 1)], initial := 4, available := 4, expr := simpleMajority }
    (match vote p0 "adm1" true (some .approve) with
      | .ok p1 => (match vote p1 "adm1" true (some .approve) with | .error .repeatVote => true | _ => false) &&
        (match vote p1 "adm2" true (some .approve) with
          | .ok p2 => p2.status == .proposed &&
            (match vote p2 "adm3" true (some .approve) with
              | .ok p3 => p3.status == .approved && (match vote p3 "adm0" true (some .reject) with | .error .ended => true | _ => false)
              | _ => false)
          | _ => false)
      | _ => false) = true := by decide +kernel

open Bxh.GovTable in
/-- **finality over every history**: once a proposal is approved or rejected, no sequence of submissions
(with priority locking), concluding ballots, electorate changes, withdrawals, forced ends, locks and unlocks
changes that entry again — it is found unchanged (status, lock, object, priority) at the same position -/
theorem C15_table_finality (t : Table) (ops : List GovTable.Op) (k : Nat) (e : Entry)
    (hk : t[k]? = some e) (hf : e.status.final = true) : (run t ops)[k]? = some e :=
  run_keeps t ops k e hk hf

open Bxh.GovTable in
/-- the same, stated on one history from the empty table: what is concluded after a prefix stays so after
any continuation -/
theorem C15_table_finality_history (ops1 ops2 : List GovTable.Op) (k : Nat) (e : Entry)
    (hk : (run [] ops1)[k]? = some e) (hf : e.status.final = true) : (run [] (ops1 ++ ops2))[k]? = some e := by
  rw [run_append]
  exact run_keeps _ ops2 k e hk hf

open Bxh.GovTable in
/-- a ballot on a proposal that is not `proposed` (paused, approved, rejected) concludes nothing -/
theorem C15_table_vote_needs_proposed (t : Table) (i : Nat) (a : Bool) (e : Entry)
    (hi : t[i]? = some e) (hs : e.status ≠ .proposed) : step t (.conclude i a) = t := by
  simp [step, hi, hs]

open Bxh.GovTable in
/-- priority locking pauses at most one proposal, and only one that is open (`proposed`), about the same object and of
strictly lower priority; every other entry of the table is left as it is -/
theorem C15_table_lock_only_lower_priority (t : Table) (obj : String) (prio i : Nat) (h : (lockLow t obj prio).2 = some i) :
    (∃ e, t[i]? = some e ∧ e.obj = obj ∧ e.status = .proposed ∧ e.prio < prio ∧
      (lockLow t obj prio).1[i]? = some { e with status := .paused }) ∧
    ∀ j, j ≠ i → (lockLow t obj prio).1[j]? = t[j]? := by
  revert h
  fun_cases lockLow t obj prio with
  | case2 => nofun
  | case1 k hk =>
    rintro ⟨⟩
    obtain ⟨hlt, hp, _⟩ := List.findIdx?_eq_some_iff_getElem.mp hk
    simp only [Bool.and_eq_true, beq_iff_eq, decide_eq_true_eq] at hp
    refine ⟨⟨t[i], by simp [hlt], hp.1.1, hp.1.2, hp.2, ?_⟩, fun j hj => ?_⟩
    · simp [setAt, hlt]
    · simp [setAt, Ne.symm hj]

open Bxh.GovTable in
/-- non-vacuity and the repaired defect: a freeze (priority 2) is paused by a logout (priority 3), withdrawn while
paused, then the logout is rejected.  With the repaired `unlockLowPriorityProposal` the withdrawn proposal stays
rejected; the unrepaired one re-opened it (this is the history the correspondence run found on the real contract). -/
example :
    let ops : List GovTable.Op := [.submit "c1" 2, .submit "c1" 3, .withdraw 0, .conclude 1 false]
    let t3 := run [] (ops.take 3)
    (t3.map (·.status) = [.rejected, .proposed]) ∧ ((run [] ops).map (·.status) = [.rejected, .rejected]) ∧
    ((handleResultUnrepaired (setAt t3 1 .rejected) 1).map (·.status) = [.proposed, .rejected]) := by decide +kernel

end Bxh.Props.C15
