import Bxh.Proofs.SyncLemmas
import Bxh.Proofs.OrderLemmas
/-!
# C20 — ordering delivers each height once, in order

Clause "Block synchronisation requests cover every missing height exactly once, in
ascending order" — about `Sync.calcRange` (model of `calcRangeHeight`).  Then, on the histories of `Order.Apply`: the executor is
handed consecutive heights whatever raft delivers and whenever the node restarts, and the stored vote survives every history.
-/
namespace Bxh.Props.C20
open Bxh.Sync

/-- Full-strength clause: for every `begin ≤ end` and every fetch size `> 0` the ranges
requested list exactly the heights `begin, begin+1, …, end`, each once, ascending; every range is
non-empty and asks for at most `fetch + 1` blocks. -/
def C20_ranges_partition : Prop :=
  ∀ (b e f : Nat), 0 < f → b ≤ e →
    ∃ rs, calcRange b e f = some rs ∧
      heights rs = List.range' b (e + 1 - b) ∧
      (∀ r ∈ rs, r.b ≤ r.e ∧ r.e ≤ e ∧ b ≤ r.b ∧ r.e + 1 - r.b ≤ f + 1)

theorem C20_ranges_partition_holds : C20_ranges_partition := by
  intro b e f hf hbe
  obtain ⟨h1, h2⟩ := calcLoop_spec f e hf (e + 1 - b) b (b / f) (Nat.div_mul_le_self b f) (Nat.le_of_lt (Nat.mul_comm .. ▸ Nat.lt_mul_div_succ b hf)) (by omega)
  refine ⟨_, if_neg (Nat.not_lt_of_le hbe), h1, fun r hr => ?_⟩
  have := h2 r hr
  omega

/-- the refused input: `begin > end` is an error and requests nothing -/
theorem C20_ranges_refuse (b e f : Nat) (h : e < b) : calcRange b e f = none :=
  if_pos h

/-- **the synchronised stream**: with peers that answer, `SyncCFTBlocks(begin, end)` / `SyncBFTBlocks` hand on exactly the
blocks `begin, begin+1, …, end`, each once, in ascending order, followed by the end marker, and the answered requests are the
ranges of `C20_ranges_partition` -/
theorem C20_sync_stream_each_height_once (b e f : Nat) (hf : 0 < f) (hbe : b ≤ e) :
    ∃ rs, syncStream b e f = some (rs, (List.range' b (e + 1 - b)).map some ++ [none]) ∧ heights rs = List.range' b (e + 1 - b) := by
  obtain ⟨rs, h1, h2, _⟩ := C20_ranges_partition_holds b e f hf hbe
  exact ⟨rs, by simp [syncStream, h1, h2], h2⟩

/-- non-vacuity / shape witness (the `fetch+1` bound is tight: begin a multiple of fetch) -/
example : calcRange 10 23 5 = some [⟨10, 15⟩, ⟨16, 20⟩, ⟨21, 23⟩] := by decide +kernel

open Bxh.Order.Apply in
/-- **each height once, in order, across faults and restarts** (safety half): from a node whose minted queue
continues its ledger, whatever raft hands over (any entries: duplicates, replays, gaps, stale heights), whenever
snapshots are taken or installed (a follower catching up through the syncer while its executor lags), heights reported and the
process crashes and restarts, the executor is handed exactly the
heights `ledger+1, ledger+2, …` — consecutive, ascending, none twice -/
theorem C20_delivery_consecutive (n : Order.Node) (l0 : Nat) (ops : List Order.Apply.Op) (h : Good n l0) :
    let s := run { n := n, ledger := l0 } ops
    s.delivered = List.range' (l0 + 1) (s.ledger - l0) ∧ l0 ≤ s.ledger := by
  have := run_inv l0 ops { n := n, ledger := l0 } ⟨h, Nat.le_refl _, by simp⟩
  exact ⟨this.2.2, this.2.1⟩

/-- non-vacuity: entries for heights 1,2 arrive, one is executed, the node crashes before reporting, raft re-delivers
both, and the executor is still handed 2 next (1 is skipped as already executed) -/
example :
    let es : List Order.Entry := [⟨1, some 1⟩, ⟨2, some 2⟩]
    (Order.Apply.run { n := {}, ledger := 0 } [.ready es, .execute, .restart, .execute, .execute]).delivered = [1, 2] := by decide +kernel

/-- the recorded finding (known_findings.json, C20 snapshot ahead of execution) on the model: the other half of the
clause — "no entry that was not executed is skipped" — fails.  Entries for heights 1 and 2 are minted, a snapshot is
taken at the applied index before the executor took anything, the process restarts: raft re-delivers nothing, the
entry for height 3 is skipped for ever, the executor is handed nothing. -/
theorem C20_snapshot_ahead_skips_unexecuted :
    let es : List Order.Entry := [⟨1, some 1⟩, ⟨2, some 2⟩]
    let s := Order.Apply.run { n := {}, ledger := 0 } [.ready es, .snapshot, .restart, .ready [⟨3, some 3⟩], .execute, .execute]
    s.delivered = [] ∧ s.ledger = 0 := by decide

/-! ### the vote a replica granted survives its restarts

"Identical content on every replica" rests on raft electing at most one leader per term, which rests on every replica voting
at most once per term — also after a crash.  The storage side of that: the term and the vote handed to `RaftStorage.Store`
(with or without entries) are what a restarted node starts from. -/

/-- the vote the node's storage holds after a history: the vote of the last hard state stored with a Ready that carried
nothing else; entries, snapshots, reports, executions and restarts do not touch it -/
def lastVote (v0 : Nat) : List Order.Apply.Op → Nat
  | [] => v0
  | .hardState _ v _ :: rest => lastVote v rest
  | _ :: rest => lastVote v0 rest

open Bxh.Order.Apply in
theorem step_vote (s : Sys) (op : Op) :
    (step s op).n.hs.2.1 = match op with | .hardState _ v _ => v | _ => s.n.hs.2.1 := by
  cases op with
  | ready es =>
    show (Order.ready s.n es).hs.2.1 = s.n.hs.2.1
    unfold Order.ready
    rw [publish_hs]
    unfold Order.storeHs
    split <;> rfl
  | snapshot => show (Order.snapshot s.n).hs.2.1 = _; unfold Order.snapshot; split <;> rfl
  | report h => show (Order.report s.n h).hs.2.1 = _; unfold Order.report; split <;> rfl
  | execute => rw [step_execute]; split <;> rfl
  | restart =>
    show (Order.publish _ _).hs.2.1 = _
    rw [publish_hs]
  | install idx height =>
    show (Order.storeHs (List.foldl _ s.n _).hs (some idx)).2.1 = _
    -- the blocks minted while catching up do not touch the hard state
    rw [foldl_inv (P := fun m : Order.Node => m.hs = s.n.hs) (fun m h hm => by split <;> exact hm) _ rfl]
    rfl
  | hardState t v c => rfl

open Bxh.Order.Apply in
/-- **over every history of Ready batches, snapshots taken and installed, reports, executions and crash-restarts, the vote in the
node's storage is the last vote it stored** — a restarted replica knows whom it voted for -/
theorem C20_vote_survives_history (ops : List Order.Apply.Op) (s : Order.Apply.Sys) :
    (run s ops).n.hs.2.1 = lastVote s.n.hs.2.1 ops := by
  unfold run
  induction ops generalizing s with
  | nil => rfl
  | cons op rest ih =>
    simp only [List.foldl_cons]
    rw [ih, step_vote]
    cases op <;> rfl

open Bxh.Order.Apply in
/-- the term is never lowered by anything but a stored hard state (entries and snapshots are stored under the term the replica is
in, at least 1) -/
theorem C20_restart_keeps_hard_state (n : Order.Node) (ledger : Nat) : (Order.restart n ledger).1.hs = n.hs :=
  publish_hs _ _

/-- non-vacuity: the replica grants its vote to 2 in term 3, crashes, restarts, stores entries: it still holds (3, 2) -/
example :
    (Order.Apply.run { n := {}, ledger := 0 } [.ready [⟨1, some 1⟩], .hardState 3 2 1, .restart, .ready [⟨2, some 2⟩]]).n.hs = (3, 2, 2) := by decide +kernel

end Bxh.Props.C20
