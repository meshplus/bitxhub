import Bxh.Proofs.LedgerQuery
import Bxh.Proofs.LedgerRevert
/-!
# C13 — snapshots: "Reverting to a snapshot restores every journaled value to what it was at snapshot time, and nested snapshots
revert independently" — and, with `getState_peek` / `peekState_setState`, the read-your-write clause for EVERY key and account
(not only the written one) over any sequence of storage writes; the prefix query; reads across cache evictions, commits and
reopen cycles.

The statements are about `Bxh.Ledger` (the model of SimpleLedger / SimpleAccount / the state changer), for every ledger state:
whatever is in the block's account objects, their dirty and origin memos, the account cache and the database.
-/
namespace Bxh.Props.C13
open Bxh Bxh.Ledger

/-- **a write changes what one key reads and nothing else**: after `SetState a k v` a read of `(b, k')` returns `v` if it is the
written key and what it returned before otherwise — through the dirty set, the origin memo, the account cache and the database,
for accounts that are objects of the block, loadable or unknown -/
theorem C13_write_changes_exactly_one_key (l : L) (a : Addr) (k : String) (v : Bytes) (b : Addr) (k' : String) :
    (getState (setState l a k v) b k').2 = if b = a ∧ k' = k then v else (getState l b k').2 := by
  rw [getState_peek, getState_peek]; exact peekState_setState l a k v b k'

/-- the latest write wins, over any sequence of writes: a read after `ws` returns the value of the last write to that key in `ws`,
or what it returned before `ws` if there is none -/
theorem C13_read_after_writes (ws : List SWrite) (l : L) (b : Addr) (k' : String) :
    (getState (writes ws l) b k').2 =
      match ws.reverse.find? (fun w => decide (w.addr = b ∧ w.key = k')) with
      | some w => w.val
      | none => (getState l b k').2 := by
  induction ws generalizing l with
  | nil => rfl
  | cons w rest ih =>
    show (getState (writes rest (setState l w.addr w.key w.val)) b k').2 = _
    rw [ih, List.reverse_cons, List.find?_append]
    cases rest.reverse.find? (fun w => decide (w.addr = b ∧ w.key = k')) with
    | some w' => rfl
    | none =>
      rw [Option.none_or, List.find?_singleton, C13_write_changes_exactly_one_key]
      by_cases h : w.addr = b ∧ w.key = k'
      · rw [decide_eq_true h, if_pos ⟨h.1.symm, h.2.symm⟩]; rfl
      · rw [decide_eq_false h, if_neg (fun e => h ⟨e.1.symm, e.2.symm⟩)]; rfl

/-- **`FlushDirtyData` keeps every read** (up to nil / empty, which `bytes.Equal` does not tell apart): on a ledger whose account
objects are coherent (`ObjCoh`: memoised committed values are what the layers below hold, a key is written only after its committed
value was memoised, no duplicates) every key of every account — written by the block or not, of a modified account or not — reads
after the flush, from the account cache and the database, what it read before it from the block's objects -/
theorem C13_flush_keeps_every_read (H : RootPre → String) (l : L) (hC : ObjCoh l) (a : Addr) (k : String) :
    ((getState (flush H l).1 a k).2).getD "" = ((getState l a k).2).getD "" := by
  rw [getState_peek, getState_peek]; exact flush_keeps_reads H l hC a k

/-- **a block's writes survive the flush**: start a block on a ledger without account objects (after the previous flush, after a
reopen), make any sequence of storage writes and deletes, flush: every key of every account reads the value of the block's last
write to it, or what it read before the block if the block did not write it -/
theorem C13_block_writes_survive_flush (H : RootPre → String) (l : L) (hno : l.accounts = []) (ws : List SWrite) (a : Addr) (k : String) :
    ((getState (flush H (writes ws l)).1 a k).2).getD "" =
      (match ws.reverse.find? (fun (w : SWrite) => decide (w.addr = a ∧ w.key = k)) with
       | some w => w.val
       | none => (getState l a k).2).getD "" := by
  rw [C13_flush_keeps_every_read H _ ((ObjCoh.of_no_objects l hno).writes ws), C13_read_after_writes]

/-- the changer's invariant on revision ids (ids are handed out from `nextRev`) -/
def RevsOk (s : L) : Prop := ∀ r ∈ s.revisions, r.1 < s.nextRev

/-- **reverting to a snapshot restores every journaled value to what it was at snapshot time**: take a snapshot of any ledger `s`, make
any sequence of journaled writes — storage writes and deletes, balance and nonce updates; any accounts: objects of the block, loadable
from cache or database, or created by the write; any keys, any values — and revert: the revert succeeds, every storage key of every
account reads what it read at `s`, and so do every account's balance and nonce; the journal and the revision stack are what they were -/
theorem C13_revert_restores_every_journaled_value (K : String → String) (s : L) (hrev : RevsOk s) (ws : List Write) :
    ∃ l3, revertTo K (applyWrites ws (snapshot s).1) (snapshot s).2 = some l3 ∧
      (∀ a k, (getState l3 a k).2 = (getState s a k).2) ∧
      (∀ a, (getBalance l3 a).2 = (getBalance s a).2 ∧ (getNonce l3 a).2 = (getNonce s a).2) ∧
      l3.changes = s.changes ∧ l3.revisions = s.revisions := by
  obtain ⟨l3, h1, hR, h2, h3⟩ := revertTo_undoable hrev (applyWrites_revs ws _).1 (undo_applyWrites ws _)
  exact ⟨l3, h1, (reads_of_revRel hR).1, (reads_of_revRel hR).2, h2, h3⟩

/-- **nested snapshots revert independently**: snapshot 1 at `s`, writes `ws1`, snapshot 2, writes `ws2`, revert to snapshot 2 — every
key, balance and nonce reads what it read when snapshot 2 was taken; then writes `ws3` and a revert to snapshot 1 — everything reads
what it read at `s` -/
theorem C13_nested_snapshots_revert_independently (K : String → String) (s : L) (hrev : RevsOk s) (ws1 ws2 ws3 : List Write) :
    let t := applyWrites ws1 (snapshot s).1
    ∃ l3, revertTo K (applyWrites ws2 (snapshot t).1) (snapshot t).2 = some l3 ∧
      (∀ a k, (getState l3 a k).2 = (getState t a k).2) ∧
      (∀ a, (getBalance l3 a).2 = (getBalance t a).2 ∧ (getNonce l3 a).2 = (getNonce t a).2) ∧
      ∃ l5, revertTo K (applyWrites ws3 l3) (snapshot s).2 = some l5 ∧ (∀ a k, (getState l5 a k).2 = (getState s a k).2) ∧
        ∀ a, (getBalance l5 a).2 = (getBalance s a).2 ∧ (getNonce l5 a).2 = (getNonce s a).2 := by
  intro t
  have htrevs : t.revisions = s.revisions ++ [(s.nextRev, s.changes.length)] := (applyWrites_revs ws1 _).1
  have htnext : t.nextRev = s.nextRev + 1 := (applyWrites_revs ws1 _).2
  have hrevt : RevsOk t := by
    intro r hr
    rw [htrevs] at hr
    rw [htnext]
    rcases List.mem_append.mp hr with h | h
    · have := hrev r h; omega
    · simp at h; rw [h]; simp
  obtain ⟨l3, i1, hR3, i2, i3⟩ := revertTo_undoable hrevt (applyWrites_revs ws2 _).1 (undo_applyWrites ws2 _)
  refine ⟨l3, i1, (reads_of_revRel hR3).1, (reads_of_revRel hR3).2, ?_⟩
  -- the outer revert: from the snapshot at `s` by `ws1`, the inner revert (which reads like `t`) and `ws3`
  obtain ⟨l5, o1, hR5, _⟩ := revertTo_undoable hrev (((applyWrites_revs ws3 _).1.trans i3).trans htrevs)
    (((undo_applyWrites ws1 _).trans (Undoable.of_revRel hR3 i2)).trans (undo_applyWrites ws3 l3))
  exact ⟨l5, o1, reads_of_revRel hR5⟩

/-- non-vacuity: a concrete ledger (one account object with a dirty and an origin value, one account only in the database), a snapshot,
writes to each (storage, balance, nonce, a delete, a created account), a revert: the revert succeeds -/
example :
    let s : L := { accounts := [(1, { dirtyState := [("a", some "x")], originState := [("ab", some "y")] })],
                   db := { state := [((2, "k"), "dbv")], acct := [(2, { nonce := 1 })] } }
    RevsOk s ∧ (revertTo id (applyWrites [.storage 1 "a" (some "z"), .balance 2 5, .storage 2 "k" none, .nonce 3 7, .storage 3 "q" (some "w")]
        (snapshot s).1) (snapshot s).2).isSome = true ∧
      (getState s 2 "k").2 = some "dbv" := by
  refine ⟨?_, ?_, ?_⟩
  · intro r hr; cases hr
  · decide +kernel
  · decide +kernel

/-- **a prefix query returns exactly the values of the live keys with that prefix**: the result of `QueryByPrefix` is (a
reordering of) the values of a finite map that has no key twice and that holds a key `k` iff `k` starts with the prefix and
`GetState` answers a present (non-empty) value for it — and then holds exactly that answer.  For every ledger state whose account
objects are coherent with the layers below them (`ObjCoh`) and whose cache and database are maps (`StoreWf`): both are
established by an empty / reopened ledger and kept by writes, flushes and commits (`ObjCoh.writes`, `StoreWf.writes`,
`StoreWf.flush`, `StoreWf.commit`, `StoreWf.reopen`); the value may live in the block's dirty set, in the account cache or in the
database, and a key deleted or emptied in any of the layers is not listed even though a lower layer still holds a value -/
theorem C13_query_lists_exactly_the_live_keys (l : L) (a : Addr) (pfx : String) (hC : ObjCoh l) (hW : StoreWf l) :
    ∃ m : KV String Bytes, (m.map (·.1)).Nodup ∧ (query l a pfx).2.Perm (m.map (·.2)) ∧
      ∀ k, KV.get m k =
        if k.startsWith pfx = true ∧ present (getState l a k).2 = true then some (getState l a k).2 else none := by
  obtain ⟨m, h1, h2, h3⟩ := query_exact l a pfx hC hW.db (hW.cache a)
  refine ⟨m, h1, h2, fun k => ?_⟩
  rw [h3 k, getState_peek]
  unfold live
  by_cases hp : k.startsWith pfx = true <;> simp [hp]

/-- every listed value is the present value of a key with the prefix -/
theorem C13_query_sound (l : L) (a : Addr) (pfx : String) (hC : ObjCoh l) (hW : StoreWf l) (v : Bytes)
    (hv : v ∈ (query l a pfx).2) :
    ∃ k, k.startsWith pfx = true ∧ (getState l a k).2 = v ∧ present v = true := by
  obtain ⟨m, h1, h2, h3⟩ := C13_query_lists_exactly_the_live_keys l a pfx hC hW
  obtain ⟨p, hp, e⟩ := List.mem_map.mp (h2.mem_iff.mp hv)
  have hw : KV.get m p.1 = some p.2 := KV.get_of_mem h1 hp
  rw [h3 p.1] at hw
  split at hw
  · rename_i hc
    injection hw with hw
    exact ⟨p.1, hc.1, hw.trans e, by rw [← e, ← hw]; exact hc.2⟩
  · cases hw

/-- every key with the prefix whose read is a present value is listed, with that value -/
theorem C13_query_complete (l : L) (a : Addr) (pfx k : String) (hC : ObjCoh l) (hW : StoreWf l)
    (hp : k.startsWith pfx = true) (hv : present (getState l a k).2 = true) :
    (getState l a k).2 ∈ (query l a pfx).2 := by
  obtain ⟨m, _, h2, h3⟩ := C13_query_lists_exactly_the_live_keys l a pfx hC hW
  have hg : KV.get m k = some (getState l a k).2 := by rw [h3 k]; simp [hp, hv]
  exact h2.mem_iff.mpr (List.mem_map.mpr ⟨_, KV.mem_of_get hg, rfl⟩)

/-- the hypotheses are met in the middle of a block and after its flush: start on a ledger without account objects whose stores are
maps (an empty or reopened ledger, the ledger after a flush), make any sequence of storage writes and deletes — the query is exact
before the flush (from the dirty sets) and after it (from the account cache, before anything was committed) -/
theorem C13_query_exact_in_and_after_a_block (H : RootPre → String) (l : L) (hno : l.accounts = []) (hW : StoreWf l) (ws : List SWrite) :
    (ObjCoh (writes ws l) ∧ StoreWf (writes ws l)) ∧ (ObjCoh (flush H (writes ws l)).1 ∧ StoreWf (flush H (writes ws l)).1) :=
  ⟨⟨(ObjCoh.of_no_objects l hno).writes ws, hW.writes ws⟩, ObjCoh.of_no_objects _ rfl, (hW.writes ws).flush H⟩

/-- non-vacuity: a ledger that meets both hypotheses with every layer in play — a database value overridden in the block (`ka`), one
deleted in the block (`kb`), one emptied in the account cache (`kc`), one only in the database (`kd`), one under another prefix, one
of another account (`String.startsWith` does not reduce in the kernel, so the query itself is run by the model driver, not here) -/
def exQ : L := { accounts := [(1, { dirtyState := [("ka", some "new"), ("kb", none)], originState := [("ka", some "old"), ("kb", some "gone")] })],
                   cache := { state := [(1, [("kc", some "")])] },
                   db := { state := [((1, "ka"), "old"), ((1, "kb"), "gone"), ((1, "kc"), "stale"), ((1, "kd"), "kept"), ((1, "x"), "other"), ((2, "ka"), "foreign")] } }
example : StoreWf exQ ∧ ObjCoh exQ ∧ (getState exQ 1 "kc").2 = some "" ∧ (getState exQ 1 "kd").2 = some "kept" ∧ (getState exQ 1 "kb").2 = none := by
  have h := queryHypB_sound exQ (by decide +kernel)
  exact ⟨h.2, h.1, by decide +kernel, by decide +kernel, by decide +kernel⟩

/-- **a cache eviction changes no read**: in a ledger whose storage cache agrees with the database (`CacheDb`: what holds from the
commit of one block to the flush of the next — the model driver evaluates it at every eviction and every reopen of every generated
history), dropping the cache entry of an account, or one key of it, leaves every storage read of every account as it was (up to nil /
empty, which `bytes.Equal` does not tell apart) — whatever the block in progress has written, memoised or loaded so far -/
theorem C13_eviction_keeps_every_read (l : L) (h : CacheDb l) (a : Addr) (b : Addr) (k : String) :
    ((getState { l with cache := { l.cache with state := KV.erase l.cache.state a } } b k).2).getD "" = ((getState l b k).2).getD "" := by
  rw [getState_peek, getState_peek]
  exact reads_agree_of_cacheDb l { l with cache := { l.cache with state := KV.erase l.cache.state a } } rfl rfl h (h.evictAcct a) b k

theorem C13_key_eviction_keeps_every_read (l : L) (h : CacheDb l) (a : Addr) (m0 : KV String Bytes) (k0 : String)
    (hm0 : KV.get l.cache.state a = some m0) (b : Addr) (k : String) :
    ((getState { l with cache := { l.cache with state := KV.set l.cache.state a (KV.erase m0 k0) } } b k).2).getD "" =
      ((getState l b k).2).getD "" := by
  rw [getState_peek, getState_peek]
  exact reads_agree_of_cacheDb l { l with cache := { l.cache with state := KV.set l.cache.state a (KV.erase m0 k0) } } rfl rfl h (h.evictKey a m0 k0 hm0) b k

/-- **a reopen changes no read**: a ledger between two blocks (no account objects) whose storage cache agrees with the database,
closed and opened again on the same database (all caches empty): every storage key of every account reads what it read before -/
theorem C13_reopen_keeps_every_read (l l2 : L) (hno : l.accounts = []) (h : CacheDb l) (hr : reopen l = some l2) (a : Addr) (k : String) :
    ((getState l2 a k).2).getD "" = ((getState l a k).2).getD "" := by
  have r := reopen_ok hr
  rw [getState_peek, getState_peek]
  refine reads_agree_of_cacheDb l l2 (by rw [r.accounts, hno]) r.db h ?_ a k
  intro b m k' v hm _
  rw [r.cache] at hm
  cases hm

/-- non-vacuity: a cache that holds the value the database holds for one key and an emptied value for a key the database does not hold -/
example : CacheDb { cache := { state := [(1, [("k", some "v"), ("gone", some "")])] }, db := { state := [((1, "k"), "v")] } } := by
  intro a m k v hm hk
  obtain ⟨rfl, rfl⟩ := Prod.mk.inj (List.mem_singleton.mp (KV.mem_of_get hm))
  have := KV.mem_of_get hk
  simp only [List.mem_cons, List.mem_nil_iff, or_false] at this
  rcases this with ⟨rfl, rfl⟩ | ⟨rfl, rfl⟩ <;> decide

/-- **the hypothesis comes back with every committed block**: start a block on a ledger without account objects whose storage cache
agrees with the database (an empty or reopened ledger, or the ledger after the previous commit), make any sequence of storage writes
and deletes, flush, commit: the storage cache agrees with the database again — so the eviction and reopen theorems above apply after
every block of a history, "no matter how many commits, cache evictions or reopen cycles lie in between" -/
theorem C13_commit_reestablishes_cache_coherence (H : RootPre → String) (l l1 : L) (h : Nat) (hno : l.accounts = []) (hD : CacheDb l)
    (ws : List SWrite) (hc : commit (flush H (writes ws l)).1 h (flush H (writes ws l)).2 = some l1) : CacheDb l1 := by
  have hW : CacheDb (writes ws l) := fun a m k v hm hk => by
    rw [(writes_frame ws l).cache] at hm
    rw [(writes_frame ws l).db]
    exact hD a m k v hm hk
  exact commit_establishes_cacheDb H (writes ws l) l1 h ((ObjCoh.of_no_objects l hno).writes ws) hW hc

/-- **the latest write is read back through the whole cycle**: a block of storage writes and deletes on a ledger between two blocks
(no account objects, cache agreeing with the database), flushed, committed, then — the value now living in the account cache and in
the database — a cache entry evicted, then the ledger closed and opened again on the same database: every storage key of every
account reads the block's last write to it, or what it read before the block if the block did not write it.  (Dirty set → account
cache → database → reopen, with a commit and an eviction in between; the same holds after every further block, by
`C13_commit_reestablishes_cache_coherence`.) -/
theorem C13_latest_write_survives_flush_commit_evict_reopen (H : RootPre → String) (l l1 l2 : L) (h : Nat) (hno : l.accounts = [])
    (hD : CacheDb l) (ws : List SWrite) (ev : Addr)
    (hc : commit (flush H (writes ws l)).1 h (flush H (writes ws l)).2 = some l1)
    (hr : reopen { l1 with cache := { l1.cache with state := KV.erase l1.cache.state ev } } = some l2) (a : Addr) (k : String) :
    ((getState l2 a k).2).getD "" =
      (match ws.reverse.find? (fun (w : SWrite) => decide (w.addr = a ∧ w.key = k)) with
       | some w => w.val
       | none => (getState l a k).2).getD "" := by
  have hC : ObjCoh (writes ws l) := (ObjCoh.of_no_objects l hno).writes ws
  have hD1 : CacheDb l1 := C13_commit_reestablishes_cache_coherence H l l1 h hno hD ws hc
  have hacc1 : l1.accounts = [] := (commit_accounts hc).trans rfl
  -- reopen ← eviction ← commit ← flush ← the block's writes
  rw [C13_reopen_keeps_every_read { l1 with cache := { l1.cache with state := KV.erase l1.cache.state ev } } l2 hacc1 (hD1.evictAcct ev) hr a k,
    C13_eviction_keeps_every_read l1 hD1 ev a k]
  rw [getState_peek, commit_keeps_reads H (writes ws l) l1 h hC hc hacc1 a k, ← getState_peek]
  exact C13_block_writes_survive_flush H l hno ws a k

/-- **balances and nonces through evictions and reopen**: in a ledger whose inner-account cache agrees with the database (`InnerDb`;
evaluated by the model driver at every eviction and reopen) dropping an account's cache entry leaves balance and nonce of every
account as they read before, and so does closing and reopening a ledger that is between two blocks -/
theorem C13_inner_eviction_keeps_balance_and_nonce (l : L) (h : InnerDb l) (a b : Addr) :
    (getBalance { l with cache := { l.cache with inner := KV.erase l.cache.inner a } } b).2 = (getBalance l b).2 ∧
    (getNonce { l with cache := { l.cache with inner := KV.erase l.cache.inner a } } b).2 = (getNonce l b).2 := by
  rw [getBalance_peek, getBalance_peek, getNonce_peek, getNonce_peek,
    inner_agree_of_innerDb l { l with cache := { l.cache with inner := KV.erase l.cache.inner a } } rfl rfl h (h.evict a) b]
  exact ⟨rfl, rfl⟩

theorem C13_reopen_keeps_balance_and_nonce (l l2 : L) (hno : l.accounts = []) (h : InnerDb l) (hr : reopen l = some l2) (b : Addr) :
    (getBalance l2 b).2 = (getBalance l b).2 ∧ (getNonce l2 b).2 = (getNonce l b).2 := by
  have r := reopen_ok hr
  have h2 : InnerDb l2 := by intro a ia ha; rw [r.cache] at ha; cases ha
  rw [getBalance_peek, getBalance_peek, getNonce_peek, getNonce_peek, inner_agree_of_innerDb l l2 (by rw [r.accounts, hno]) r.db h h2 b]
  exact ⟨rfl, rfl⟩

example : CacheDb ({} : L) := by intro a m k v hm _; cases hm

end Bxh.Props.C13
