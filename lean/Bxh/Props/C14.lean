import Bxh.Proofs.ExecFees
/-!
# C14 — transfers and fees never create value
Theorems about `transfer`, `payGasFee`, `payLeftAsGasFee`, `payAdmins` of `Bxh.Exec`
(model of the functions of the same names in `internal/executor/handle.go`).
Balances are `Int`; the sum is taken over any finite list of distinct accounts that contains the
accounts involved.
-/
namespace Bxh.Props.C14
open Bxh.Exec

def total (l : Led) (accts : List String) : Int := (accts.map l.getBal).foldl (· + ·) 0

/-- **exact transfer**: a successful transfer between two different accounts debits the sender by
exactly `v`, credits the receiver by exactly `v` and touches no other balance; it needs `0 < v ≤ balance` -/
theorem C14_transfer_exact (l l' : Led) (a b : String) (v : Int) (hab : a ≠ b) (hv : v ≠ 0)
    (h : transfer l a b v = .ok l') :
    0 < v ∧ v ≤ l.getBal a ∧ l'.getBal a = l.getBal a - v ∧ l'.getBal b = l.getBal b + v ∧
    ∀ c, c ≠ a → c ≠ b → l'.getBal c = l.getBal c := by
  obtain ⟨h0, h1⟩ := transfer_amount h
  refine ⟨by omega, by omega, ?_, ?_, fun c hca hcb => ?_⟩
  · rw [transfer_getBal h, if_pos rfl, if_neg (Ne.symm hab)]; omega
  · rw [transfer_getBal h, if_neg hab, if_pos rfl]; omega
  · rw [transfer_getBal h, if_neg (Ne.symm hca), if_neg (Ne.symm hcb)]; omega

/-- a self-transfer changes no balance (it used to credit `v`; repaired by a `fix:` commit) -/
theorem C14_self_transfer_neutral (l l' : Led) (a : String) (v : Int) (h : transfer l a a v = .ok l') :
    ∀ c, l'.getBal c = l.getBal c := by
  intro c
  rw [transfer_getBal h]
  split <;> omega

/-- a failed transfer has no ledger at all (no effect); it fails exactly when the amount is
negative or exceeds the sender's balance -/
theorem C14_transfer_fails_iff (l : Led) (a b : String) (v : Int) :
    (∃ e, transfer l a b v = .error e) ↔ (v < 0 ∨ (0 < v ∧ l.getBal a < v)) := by
  unfold transfer
  constructor
  · rintro ⟨e, h⟩
    split at h
    · cases h
    · split at h
      · left; assumption
      · split at h
        · right; constructor <;> omega
        · cases h
  · rintro (h | ⟨h1, h2⟩)
    · have : ¬ v = 0 := by omega
      simp [this, h]
    · have : ¬ v = 0 := by omega
      have h3 : ¬ v < 0 := by omega
      simp [this, h3, h2]

/-- **no negative balance**: transfer keeps every balance non-negative -/
theorem C14_transfer_nonneg (l l' : Led) (a b : String) (v : Int) (h : transfer l a b v = .ok l')
    (hnn : ∀ c, 0 ≤ l.getBal c) : ∀ c, 0 ≤ l'.getBal c :=
  transfer_nonNeg h hnn

/-- **fee rounding**: what `payAdmins` distributes is `n · ⌊fees / n⌋`: at most `fees`, and short
of it by at most `n − 1` units -/
theorem C14_fee_rounding (n : Nat) (fees : Int) (hn : 0 < n) (hf : 0 ≤ fees) :
    0 ≤ fees - (n : Int) * (fees / (n : Int)) ∧ fees - (n : Int) * (fees / (n : Int)) ≤ (n : Int) - 1 := by
  have h := split_bounds n fees
  exact ⟨by have := h.1 hf; omega, by have := h.2 hn; omega⟩

/-- the fee step never makes the sender's balance negative: it either debits `fees ≤ balance`
or (fallback) sets the balance to zero -/
theorem C14_payGasFee_sender_nonneg (cfg : Cfg) (l l' : Led) (s : String) (g : Nat)
    (h : payGasFee cfg l s g = some l') (hs : s ∉ cfg.admins) :
    l'.getBal s = l.getBal s - ((g * cfg.price : Nat) : Int) ∧ 0 ≤ l'.getBal s := by
  obtain ⟨hx, rfl⟩ := payGasFee_eq h
  rw [charge_getBal, if_pos rfl, List.count_eq_zero_of_not_mem hs]
  constructor <;> simp <;> omega

/-- **over any block the sum of the balances does not grow** (and no balance becomes negative): for every block — transfers of
any amount, IBTPs and contract calls that succeed or fail at any stage, fee payments that succeed or fall back to the
sender's whole balance, the timeout bookkeeping — and every list of distinct accounts that contains the senders of the
block's transactions (value may leave the list towards other receivers or admins, it never enters it from nowhere) -/
theorem C14_block_no_value_created (cfg : Cfg) (n : Node) (txs : List (Tx × Bool)) (accts : List String)
    (hnd : accts.Nodup) (hs : ∀ p ∈ txs, p.1.sender ∈ accts) (hn : NonNeg n.led) :
    Exec.total (execBlock cfg n txs).1.led accts ≤ Exec.total n.led accts ∧ NonNeg (execBlock cfg n txs).1.led :=
  execBlock_total cfg n txs accts hnd hs hn

def runBlocks (cfg : Cfg) (n : Node) (blocks : List (List (Tx × Bool))) : Node :=
  blocks.foldl (fun n b => (execBlock cfg n b).1) n

/-- **and over any history of blocks** -/
theorem C14_history_no_value_created (cfg : Cfg) (blocks : List (List (Tx × Bool))) (n : Node) (accts : List String)
    (hnd : accts.Nodup) (hs : ∀ b ∈ blocks, ∀ p ∈ b, p.1.sender ∈ accts) (hn : NonNeg n.led) :
    Exec.total (runBlocks cfg n blocks).led accts ≤ Exec.total n.led accts ∧ NonNeg (runBlocks cfg n blocks).led :=
  Exec.runBlocks_inv_mem cfg (fun m => Exec.total m.led accts ≤ Exec.total n.led accts ∧ NonNeg m.led) (fun b => ∀ p ∈ b, p.1.sender ∈ accts)
    (fun m b hm hb => (execBlock_total cfg m b accts hnd hb hm.2).imp (fun h => Int.le_trans h hm.1) id) blocks n ⟨Int.le_refl _, hn⟩ hs

theorem total_eq (l : Led) (accts : List String) : Exec.total l accts = total l accts := rfl

/-- non-vacuity: a block with a transfer, a self-transfer, a negative amount, a transfer that cannot pay its fee and
a failing contract call, over all accounts involved -/
example :
    let l : Led := { bal := [("u0", 1000000), ("u1", 30000), ("adm0", 5), ("adm1", 5), ("adm2", 5), ("adm3", 5)] }
    let n : Node := { led := l, height := 6 }
    let txs : List (Tx × Bool) := [(.xfer "u0" "u1" (some 7), true), (.xfer "u0" "u0" (some 5), true), (.xfer "u0" "u1" (some (-3)), true),
                                   (.xfer "u1" "u0" (some 20000), true), (.bvm "u0" "txmgr" "GetStatus" [], false)]
    let accts := ["u0", "u1", "adm0", "adm1", "adm2", "adm3"]
    -- the fourth transaction cannot pay its fee: reverted, u1's whole balance (30007) goes to the four admins, 3 units of rounding are lost
    Exec.total l accts = 1030020 ∧ Exec.total (execBlock {} n txs).1.led accts = 1030017 ∧ (execBlock {} n txs).1.led.getBal "u1" = 0 := by
  decide +kernel

/-- **a fee that can be paid reaches the admins with at most `n − 1` units of rounding loss**: over any list of distinct accounts
that contains the sender and all admins — whoever the sender is, one of the admins too -/
theorem C14_paid_fee_reaches_admins (cfg : Cfg) (l l' : Led) (s : String) (g : Nat) (e : payGasFee cfg l s g = some l')
    (accts : List String) (hnd : accts.Nodup) (hs : s ∈ accts) (hadm : ∀ a ∈ cfg.admins, a ∈ accts) (hn : 0 < cfg.admins.length) :
    Exec.total l accts - ((cfg.admins.length : Int) - 1) ≤ Exec.total l' accts :=
  payGasFee_total_ge e accts hnd hs hadm hn

/-- **a sender that cannot cover the fee loses its whole remaining balance, and that too reaches the admins with at most `n − 1`
units of rounding loss — also when the sender is itself one of the admins** (it is emptied first and then receives its share;
emptying it after the split would destroy its share) -/
theorem C14_unpayable_fee_reaches_admins (cfg : Cfg) (l : Led) (s : String)
    (accts : List String) (hnd : accts.Nodup) (hs : s ∈ accts) (hadm : ∀ a ∈ cfg.admins, a ∈ accts) (hn : 0 < cfg.admins.length) :
    Exec.total l accts - ((cfg.admins.length : Int) - 1) ≤ Exec.total (payLeftAsGasFee cfg l s) accts :=
  payLeft_total_ge cfg l s accts hnd hs hadm hn

/-- **one transaction destroys at most the rounding of its fee**, whatever it is (transfer inside the account list, IBTP,
contract call), whether it succeeds, fails or cannot pay, whoever sends it -/
theorem C14_tx_loss_bound (env : Env) (l : Led) (tx : Tx) (inv : Option String)
    (accts : List String) (hnd : accts.Nodup) (hs : tx.sender ∈ accts) (hr : recvIn tx accts)
    (hadm : ∀ a ∈ env.cfg.admins, a ∈ accts) (hn : 0 < env.cfg.admins.length) :
    Exec.total l accts - ((env.cfg.admins.length : Int) - 1) ≤ Exec.total (applyTx env l tx inv).1 accts :=
  applyTx_total_ge env l tx inv accts hnd hs hr hadm hn

/-- **over any block at most `n − 1` units per transaction leave the accounts** (senders, receivers and admins inside the list):
together with `C14_block_no_value_created` the sum of all balances moves within `[−(n−1)·|txs|, 0]` per block -/
theorem C14_block_loss_bound (cfg : Cfg) (n : Node) (txs : List (Tx × Bool)) (accts : List String) (hnd : accts.Nodup)
    (hs : ∀ p ∈ txs, p.1.sender ∈ accts) (hr : ∀ p ∈ txs, recvIn p.1 accts)
    (hadm : ∀ a ∈ cfg.admins, a ∈ accts) (hn : 0 < cfg.admins.length) :
    Exec.total n.led accts - (txs.length : Int) * ((cfg.admins.length : Int) - 1) ≤ Exec.total (execBlock cfg n txs).1.led accts :=
  execBlock_total_ge cfg n txs accts hnd hs hr hadm hn

/-- non-vacuity: the admin `adm1` holds 1002 and cannot pay the fee of its transfer (21000): the 1002 are split 250 each, `adm1`
keeps its own share of 250, two units of rounding are lost — the bound `n − 1 = 3` is met -/
example :
    let l : Led := { bal := [("u0", 10), ("adm0", 5), ("adm1", 1002), ("adm2", 5), ("adm3", 5)] }
    let n : Node := { led := l, height := 6 }
    let accts := ["u0", "adm0", "adm1", "adm2", "adm3"]
    let r := (execBlock {} n [(.xfer "adm1" "u0" (some 1), true)]).1.led
    Exec.total l accts = 1027 ∧ Exec.total r accts = 1025 ∧ r.getBal "adm1" = 250 ∧ r.getBal "adm0" = 255 := by
  decide +kernel

end Bxh.Props.C14
