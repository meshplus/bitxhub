import Bxh.Model.Lifecycle
import Bxh.Proofs.ExecLemmas
import Bxh.Proofs.TxFsmTable
/-!
# C16 — only available, permitted services interchange; objects obey their life cycle

*Gating*: theorems about `checkIBTP` / `checkTarget` of `Bxh.Exec` (model of
`InterchainManager.checkIBTP`, `checkSourceAvailability`, `checkTargetAvailability`) for every
ledger, cache and IBTP.  *Life cycles*: table theorems over the state machines regenerated from
role.go and the bitxhub-core managers (`Bxh.Gen.lifecycles`), lifted to the step function for
every event string.  That every status change observed on the real node is a step of these tables,
that an approved freeze / logout of an appchain makes its services unusable, and the gating on the
real node after real governance operations and restarts, is decided by the monitor of the
correspondence run (py/vlib/gen_gov.py `mon_c16`).
-/
namespace Bxh.Props.C16
open Bxh Bxh.Exec Bxh.Lifecycle

/-- **source side**: a request whose (local) source service is missing or not available is rejected -/
theorem C16_unavailable_source_rejected (env : Env) (l : Led) (i : Ibtp) (src dst : SvcId)
    (hf : i.frm = some src) (ht : i.to = some dst) (hreq : i.typ.isRequest = true) (hloc : isLocal env src = true)
    (hn : isNotification l src dst i = some false)
    (hs : ∀ s, getSvc l env.cache src.chain src.sid = some s → s.available = false) :
    checkIBTP env l i = .error "1080007" := by
  unfold checkIBTP
  simp only [hf, ht, hn, hreq, hloc, if_true, Bool.not_false, Bool.and_self]
  cases h : getSvc l env.cache src.chain src.sid with
  | none => rfl
  | some s => simp [hs s h]

/-- (the hypothesis `hn`: the request is not one handed back with the destination hub's notice, which starts no interchange —
inside one hub there is no such thing) -/
theorem isNotification_local (l : Led) (src dst : SvcId) (i : Ibtp) (h : src.bxh = dst.bxh) :
    isNotification l src dst i = some false := by
  simp [isNotification, h]

/-- **destination side, what makes the target unusable**: a local, non-hub destination service
that is missing, unavailable, or blacklists the source yields the target error (the request is then
recorded as begin-failed); otherwise there is no target error and `isBatch` = not ordered -/
theorem C16_target_error_iff (env : Env) (l : Led) (src dst : SvcId)
    (hloc : isLocal env dst = true) (hhub : (dst.chain == dst.bxh) = false) :
    (checkTarget env l src dst).2 = true ↔
      ∀ s, getSvc l env.cache dst.chain dst.sid = some s → (s.available = false ∨ s.blacklist.contains src = true) := by
  unfold checkTarget
  simp only [hloc, hhub, if_true, Bool.false_eq_true, if_false]
  cases getSvc l env.cache dst.chain dst.sid with
  | none => simp
  | some s =>
    by_cases ha : s.available = true
    · by_cases hb : src ∈ s.blacklist
      · simp [ha, hb]
      · simp [ha, hb]
    · simp [ha]

theorem checkIBTP_request_source {env : Env} {l : Led} {i : Ibtp} {ck : Checked} (h : checkIBTP env l i = .ok ck)
    (hreq : i.typ.isRequest = true) (hn : ck.notice = false) :
    (isLocal env ck.src = true ∧ ∃ s, getSvc l env.cache ck.src.chain ck.src.sid = some s ∧ s.available = true) ∨
    (isLocal env ck.src = false ∧ isLocal env ck.dst = true ∧ env.cfg.hubs.contains ck.src.bxh = true) :=
  (checkIBTP_ok_request h hreq hn).2.2

/-- **an accepted request (one that starts an interchange: no notice) comes from an available local service — or from a BitXHub
registered here as an available relay chain —, and a destination recorded for execution (no target error) exists, is available
and does not block the source** -/
theorem C16_accepted_request_is_gated (env : Env) (l : Led) (i : Ibtp) (ck : Checked)
    (h : checkIBTP env l i = .ok ck) (hreq : i.typ.isRequest = true) (hn : ck.notice = false) :
    ((isLocal env ck.src = true ∧ ∃ s, getSvc l env.cache ck.src.chain ck.src.sid = some s ∧ s.available = true) ∨
     (isLocal env ck.src = false ∧ isLocal env ck.dst = true ∧ env.cfg.hubs.contains ck.src.bxh = true)) ∧
    ((isLocal env ck.dst = true ∧ (ck.dst.chain == ck.dst.bxh) = false ∧ ck.targetErr = false) →
      ∃ d, getSvc l env.cache ck.dst.chain ck.dst.sid = some d ∧ d.available = true ∧ d.blacklist.contains ck.src = false) := by
  refine ⟨checkIBTP_request_source h hreq hn, ?_⟩
  intro ⟨hl, hh, hte⟩
  -- no target error: the destination is none of the things that make one
  have hno : ¬ ∀ s, getSvc l env.cache ck.dst.chain ck.dst.sid = some s → (s.available = false ∨ s.blacklist.contains ck.src = true) := by
    rw [← C16_target_error_iff env l ck.src ck.dst hl hh, (checkIBTP_ok_request h hreq hn).1, hte]
    exact Bool.false_ne_true
  cases hd : getSvc l env.cache ck.dst.chain ck.dst.sid with
  | none => exact absurd (fun s hs => by rw [hd] at hs; cases hs) hno
  | some d =>
    refine ⟨d, rfl, ?_, ?_⟩
    · exact Bool.of_not_eq_false fun ha => hno fun s hs => by cases hd.symm.trans hs; exact .inl ha
    · exact Bool.of_not_eq_true fun hb => hno fun s hs => by cases hd.symm.trans hs; exact .inr hb

/-- a request addressed to another BitXHub is recorded for execution only when that hub is a registered, available relay chain
here; otherwise it is begin-failed -/
theorem C16_remote_target_needs_registered_hub (env : Env) (l : Led) (src dst : SvcId) (hrem : isLocal env dst = false) :
    (checkTarget env l src dst).2 = !env.cfg.hubs.contains dst.bxh := by
  unfold checkTarget
  simp [hrem]

/-- the object kinds the property names: once logged out they never become usable again -/
def finalKinds : List String := ["appchain", "service", "role", "node"]

/-- everything that is read off the regenerated life-cycle tables and available statuses, in one evaluation -/
theorem lifecycle_facts :
    (∀ o ∈ finalKinds, ∀ e ∈ tableOf o, "forbidden" ∉ e.2.1) ∧
    (∀ o ∈ finalKinds, isAvailable o "forbidden" = false) ∧
    ((tableOf "service").length > 10 ∧ step (tableOf "service") "registering" "approve" "unavailable" = some "available" ∧
     isAvailable "service" "available" = true) ∧
    (((tableOf "rule").filter (fun e => e.2.1.contains "forbidden")).all (fun e => e.1 == "clear" && e.2.2 == "unavailable") = true ∧
     (tableOf "rule").all (fun e => !e.2.1.contains "unavailable") = true) ∧
    ((["appchain", "service", "role", "node"].all (fun o => step (tableOf o) "logouting" "approve" "available" == some "forbidden")) = true ∧
     (Gen.availableStatus.all (fun p => !p.2.contains "forbidden" && !p.2.contains "frozen" && !p.2.contains "pause" && !p.2.contains "unavailable")) = true) ∧
    (step (tableOf "appchain") "freezing" "approve" "available" = some "frozen" ∧ isAvailable "appchain" "frozen" = false ∧
     step (tableOf "service") "available" "pause" "available" = some "pause" ∧ isAvailable "service" "pause" = false ∧
     isAvailable "service" "forbidden" = false) ∧
    (["appchain", "service", "role", "node"].all fun o =>
      ((tableOf o).filter (fun e => e.1 == "reject")).all fun e =>
        e.2.2 == "<last>" || !isAvailable o e.2.2 || e.2.1.all (isAvailable o)) = true := by
  decide +kernel

/-- **logged out is final**: for appchains, services, roles and nodes, for every event string and
every remembered last status, an object in status `forbidden` makes no step -/
theorem C16_forbidden_absorbing (obj ev last : String) (hk : obj ∈ finalKinds) :
    step (tableOf obj) "forbidden" ev last = none := by
  unfold step
  cases hl : fsmLookup (tableOf obj) ev "forbidden" with
  | none => rfl
  | some d =>
    have noExit : ∀ o ∈ finalKinds, ∀ e ∈ tableOf o, "forbidden" ∉ e.2.1 := lifecycle_facts.1
    obtain ⟨e, he, _, hs, _⟩ := fsmLookup_mem hl
    exact absurd hs (noExit obj hk e he)

/-- rules are not in that list: the rules of a logged-out chain are cleared, `forbidden → unavailable`;
`unavailable` is not an available status and has no exit in the rule table -/
theorem C16_rule_forbidden_only_cleared :
    ((tableOf "rule").filter (fun e => e.2.1.contains "forbidden")).all (fun e => e.1 == "clear" && e.2.2 == "unavailable") = true ∧
    (tableOf "rule").all (fun e => !e.2.1.contains "unavailable") = true := lifecycle_facts.2.2.2.1

/-- table fact: an approved logout ends in `forbidden` for appchains, services, roles and nodes,
and `forbidden`, `frozen`, `pause`, `unavailable`, `logouting` are never "available" statuses -/
theorem C16_logout_approved_is_forbidden :
    (["appchain", "service", "role", "node"].all (fun o => step (tableOf o) "logouting" "approve" "available" == some "forbidden")) = true ∧
    (Gen.availableStatus.all (fun p => !p.2.contains "forbidden" && !p.2.contains "frozen" && !p.2.contains "pause" && !p.2.contains "unavailable")) = true :=
  lifecycle_facts.2.2.2.2.1

/-- table fact: an approved freeze of an appchain leaves it `frozen`, which is not an available
status, and the cascade event `pause` takes an available service out of the available statuses -/
theorem C16_freeze_makes_unavailable :
    step (tableOf "appchain") "freezing" "approve" "available" = some "frozen" ∧ isAvailable "appchain" "frozen" = false ∧
    step (tableOf "service") "available" "pause" "available" = some "pause" ∧ isAvailable "service" "pause" = false ∧
    isAvailable "service" "forbidden" = false := lifecycle_facts.2.2.2.2.2.1

/-- table fact: **a rejection never makes an object usable that was not usable when the operation was proposed**: every
`reject` transition of appchains, services, roles and nodes either returns to the remembered previous status (`<last>`),
or ends in a status that is not an available one, or starts only from statuses that are available ones themselves -/
theorem C16_reject_never_makes_available :
    (["appchain", "service", "role", "node"].all fun o =>
      ((tableOf o).filter (fun e => e.1 == "reject")).all fun e =>
        e.2.2 == "<last>" || !isAvailable o e.2.2 || e.2.1.all (isAvailable o)) = true :=
  lifecycle_facts.2.2.2.2.2.2

/-- non-vacuity: the tables are there and a registration is approved into `available` -/
example : (tableOf "service").length > 10 ∧ step (tableOf "service") "registering" "approve" "unavailable" = some "available" ∧
    isAvailable "service" "available" = true := lifecycle_facts.2.2.1

/-- the governance status of an object under a sequence of (event, remembered last status) pairs; an event the state
machine refuses leaves the status where it is (the manager returns an error and the transaction is reverted) -/
def runEvents (obj : String) (st : String) (evs : List (String × String)) : String :=
  evs.foldl (fun s e => (step (tableOf obj) s e.1 e.2).getD s) st

/-- **a logged-out appchain, service, role or node never becomes anything else again**, whatever governance operations,
approvals, rejections and cascading operations follow -/
theorem C16_forbidden_forever (obj : String) (evs : List (String × String)) (hk : obj ∈ finalKinds) :
    runEvents obj "forbidden" evs = "forbidden" :=
  foldl_inv (P := (· = "forbidden")) (fun s e hs => by rw [hs, C16_forbidden_absorbing obj e.1 e.2 hk]; rfl) evs rfl

/-- and therefore never usable (available) again -/
theorem C16_forbidden_never_available (obj : String) (evs : List (String × String)) (hk : obj ∈ finalKinds) :
    isAvailable obj (runEvents obj "forbidden" evs) = false := by
  have notAvailable : ∀ o ∈ finalKinds, isAvailable o "forbidden" = false := lifecycle_facts.2.1
  rw [C16_forbidden_forever obj evs hk]
  exact notAvailable obj hk

end Bxh.Props.C16
