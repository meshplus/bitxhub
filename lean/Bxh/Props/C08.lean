import Bxh.Proofs.ExecBlock
import Bxh.Gen.Guards
/-!
# C08 — block execution is total

What a Lean theorem can carry here: the model of the executor loop (`applyTxs`, `execBlock`) is a
total function (accepted by Lean's termination checker: every loop is a fold or a fuel-bounded
structural recursion, e.g. `goRemoveLoop`, whose slice-bounds panic is an explicit `none` turned
into a failed receipt), and for every block — any number of transactions of any content the op
language can express, valid signature or not — it produces exactly one receipt per transaction, in
block order, and commits with the next height.

That the *Go code* never panics or blocks on inputs outside the model's abstraction (raw payload
bytes, reflection over argument vectors, JSON of malformed ids) cannot be a theorem about a
hand-written model; it is decided by the correspondence run: the real executor is driven with
malformed transactions of every class (see py/vlib/gen_dispatch.py `gen_c08`), a dead or panicking
process, a missing receipt or a height that is not the next one is a violation, and the receipts
of everything the model does cover must agree with it.
-/
namespace Bxh.Props.C08
open Bxh.Exec

theorem applyTxs_eq_foldl (cfg : Cfg) (cache : KV (String × String) Svc) (h : Nat) (l : Led) (txs : List (Tx × Bool)) :
    applyTxs cfg cache h l txs = txs.foldl (stepAcc cfg cache h) { led := l } := by
  rfl

theorem foldl_counts (cfg : Cfg) (cache : KV (String × String) Svc) (h : Nat) (txs : List (Tx × Bool)) (a : Acc) :
    (txs.foldl (stepAcc cfg cache h) a).rcpts.length = a.rcpts.length + txs.length :=
  foldl_stepAcc_rcpts_length cfg cache h txs a

/-- **one receipt per transaction**, whatever the transactions are -/
theorem C08_one_receipt_per_tx (cfg : Cfg) (n : Node) (txs : List (Tx × Bool)) :
    (execBlock cfg n txs).2.rcpts.length = txs.length :=
  applyTxs_rcpts_length cfg n.cache (n.height + 1) n.led txs

/-- **the block is committed with the next height** -/
theorem C08_next_height (cfg : Cfg) (n : Node) (txs : List (Tx × Bool)) :
    (execBlock cfg n txs).1.height = n.height + 1 ∧ (execBlock cfg n txs).2.height = n.height + 1 :=
  ⟨rfl, rfl⟩

/-- **receipts are in block order**: executing `txs ++ [t]` yields the receipts of `txs` followed by
the receipt of `t` applied to the ledger `txs` left behind (so receipt `i` belongs to transaction `i`) -/
theorem C08_receipts_in_block_order (cfg : Cfg) (cache : KV (String × String) Svc) (h : Nat) (l : Led)
    (txs : List (Tx × Bool)) (t : Tx × Bool) :
    applyTxs cfg cache h l (txs ++ [t]) = stepAcc cfg cache h (applyTxs cfg cache h l txs) t := by
  simp [applyTxs_eq_foldl, List.foldl_append]

/-- a receipt exists even for a transaction rejected before execution (bad signature / proof) -/
theorem C08_rejected_tx_gets_failed_receipt (env : Env) (l : Led) (tx : Tx) (r : String) :
    (applyTx env l tx (some r)).2.rcpt.ok = false :=
  applyTx_failed_of_error (e := r) rfl

/-- the in-place removal loop of the timeout list never escapes: a slice-bounds panic of the Go
loop is the explicit `none`, which `tmRemoveTimeout` turns into an error (a failed receipt) -/
theorem C08_remove_panic_is_contained (l : Led) (h : Nat) (id : TId) (lst : List (Option TId))
    (hl : l.getS (.timeout h) = some (.tlist lst)) (hne : lst ≠ [none]) (hp : goRemove lst id = none) :
    tmRemoveTimeout l h id = .error "panic" := by
  unfold tmRemoveTimeout
  simp [hl, hp, hne]

/-- non-vacuity: a block of one bad-signature transfer and one transfer of a non-numeric amount -/
example : (execBlock {} { led := {}, height := 6 }
    [(.xfer "a" "b" (some 5), false), (.xfer "a" "b" none, true)]).2.rcpts.length = 2 := by decide +kernel

/-! ### where a panic would end the process: goroutines and recover guards (regenerated from /repo on every run)

A panic is contained only by a `recover` in the goroutine it happens in.  `Bxh.Gen.goSites` lists every `go` statement of the
block-execution packages (executor, ledger, bolt VM, proof pool) with whether the goroutine's own body starts with a deferred
`recover`; `Bxh.Gen.recoverGuards` lists every function that defers one, and whether the guard is the function's first statement.
The theorems below are re-checked against the regenerated tables: a new goroutine, a guard that is gone, or a statement moved in
front of a guard breaks one of them. -/

open Bxh.Gen in
/-- the goroutines without a recover of their own, reviewed one by one (a panic in any of them ends the process, so each must be
panic-free for every block — which is what the correspondence run exercises):
* `Start` ×3: the executor's three long-lived loops (pre-execution, execution, persistence) — the stages themselves;
* `verifySign`: one goroutine per transaction; its body is `verifyTxSignature` (guarded, see below) plus a map write under a mutex;
* `verifyProofs`: one goroutine per group of a block; its body calls `CheckProof`, whose rule engines return errors (the nil-error
  dereference that used to crash here was repaired: fix 0f59eb42);
* `postAuditEvent` / `postNodeEvent` / `postBlockEvent` ×2 / `postLogsEvent`: `event.Feed.Send` towards subscribers, after the block is done;
* `PersistBlockData` ×2, `PersistExecutionResult` ×2: the concurrent writes of one block to the state store, the block file and the
  chain index (their failure modes are the crash points of C11). -/
def reviewedGoroutines : List (String × String × Nat) := [
  ("internal/executor", "BlockExecutor.Start", 0),
  ("internal/executor", "BlockExecutor.Start", 1),
  ("internal/executor", "BlockExecutor.Start", 2),
  ("internal/executor", "BlockExecutor.postAuditEvent", 0),
  ("internal/executor", "BlockExecutor.postBlockEvent", 0),
  ("internal/executor", "BlockExecutor.postBlockEvent", 1),
  ("internal/executor", "BlockExecutor.postLogsEvent", 0),
  ("internal/executor", "BlockExecutor.postNodeEvent", 0),
  ("internal/executor", "BlockExecutor.verifyProofs", 0),
  ("internal/executor", "BlockExecutor.verifySign", 0),
  ("internal/ledger", "ChainLedgerImpl.PersistExecutionResult", 0),
  ("internal/ledger", "ChainLedgerImpl.PersistExecutionResult", 1),
  ("internal/ledger", "Ledger.PersistBlockData", 0),
  ("internal/ledger", "Ledger.PersistBlockData", 1)]

/-- the functions whose deferred `recover` the containment argument relies on: contract code (any method, any arguments, any IBTP)
runs inside `BoltVM.Run` / `BoltVM.HandleIBTP`, signature verification of foreign transactions inside `verifyTxSignature` -/
def requiredGuards : List (String × String) := [
  ("internal/executor", "verifyTxSignature"),
  ("pkg/vm/boltvm", "BoltVM.HandleIBTP"),
  ("pkg/vm/boltvm", "BoltVM.Run")]

open Bxh.Gen in
/-- everything that is read off the two regenerated tables, in one evaluation -/
theorem guardTables_facts :
    goSites.all (fun g => g.guarded || reviewedGoroutines.contains (g.pkg, g.func, g.n)) = true ∧
    reviewedGoroutines.all (fun r => goSites.any (fun g => (g.pkg, g.func, g.n) == r)) = true ∧
    requiredGuards.all (fun r => recoverGuards.any (fun g => g.pkg == r.1 && g.func == r.2 && g.first && g.setsResult)) = true ∧
    goSites.all (fun g => g.pkg != "internal/executor/contracts") = true := by decide +kernel

open Bxh.Gen in
/-- every goroutine of the block-execution packages has its own recover guard or is a reviewed one -/
theorem C08_goroutines_guarded_or_reviewed :
    goSites.all (fun g => g.guarded || reviewedGoroutines.contains (g.pkg, g.func, g.n)) = true := guardTables_facts.1

open Bxh.Gen in
/-- no reviewed entry is stale -/
theorem C08_reviewed_goroutines_exist :
    reviewedGoroutines.all (fun r => goSites.any (fun g => (g.pkg, g.func, g.n) == r)) = true := guardTables_facts.2.1

open Bxh.Gen in
/-- **the recover guards are in place, and each is the first statement of its function** (nothing — no look-up, no
dereference of a field of the transaction — runs before the guard stands), and each of them turns the panic into the function's
ERROR RESULT (the deferred function assigns to a named result: a guard that sets a local would let the function return nil, nil and
the executor would write a SUCCESS receipt for a transaction that was never processed) -/
theorem C08_recover_guards_in_place :
    requiredGuards.all (fun r => recoverGuards.any (fun g => g.pkg == r.1 && g.func == r.2 && g.first && g.setsResult)) = true :=
  guardTables_facts.2.2.1

open Bxh.Gen in
/-- the contracts package starts no goroutine: contract code runs on the executor's goroutine, inside the bolt VM's guard -/
theorem C08_contracts_start_no_goroutine :
    goSites.all (fun g => g.pkg != "internal/executor/contracts") = true := guardTables_facts.2.2.2

end Bxh.Props.C08
