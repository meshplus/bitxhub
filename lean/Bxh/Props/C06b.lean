import Bxh.Props.C04
import Bxh.Props.C06
/-!
# C06 — over whole histories of blocks (uses the `Tracked` invariant of `Props/C04.lean`)

"A request whose receipt was accepted in a block up to and including H+T is never listed as timed out and its status is never
altered by the timeout mechanism; requests with T=0 never time out."  The block-level theorems of `Props/C06.lean` say what one
bookkeeping step and one timeout step do; here the statements are about every history of blocks that starts on a fresh chain.
-/
namespace Bxh.Props.C06
open Bxh Bxh.Exec Bxh.Props.C02 Bxh.Props.C04

/-- **an answered request never times out**: once the record of `t` is final at a block boundary (its receipt was accepted in some
block — in the deadline block at the latest, or it would be BEGIN_ROLLBACK), `t` is on the list of no later height when that
height's timeout step runs, in every continuation of the history, and its status is what it was -/
theorem C06_answered_request_never_times_out (cfg : Cfg) (blocks : List (List (Tx × Bool))) (n : Node) (t : TxId) (st : Status)
    (hF : FinalInvL { cfg := cfg, cache := n.cache, height := 0, txIndex := 0 } n.led n.height t st) (hf : st.isFinal = true)
    (hnd : ∀ b ∈ blocks, ∀ p ∈ b, ∀ sg args, p.1 ≠ .bvm sg "interchain" "DeleteInterchain" args) :
    recStatus (runBlocks cfg n blocks).led t = some st ∧
    ∀ d, (runBlocks cfg n blocks).height < d → TId.single t ∉ getTimeoutList (runBlocks cfg n blocks).led d := by
  obtain ⟨h1, h2⟩ := C04_block_history_final_stays_unlisted cfg blocks n t st hF hf hnd
  exact ⟨h1, fun d hd hm => h2 d hd (listedAt_of_mem_getTimeoutList hm)⟩

/-- **… from the first block on**: on a history that starts on a fresh chain, if the status of `t` is final after the first `k`
blocks then no later block's timeout step finds `t` on its list: the lists still to come after all blocks do not hold it -/
theorem C06_final_is_unlisted_forever (cfg : Cfg) (blocks : List (List (Tx × Bool))) (n : Node) (t : TxId)
    (hT : Tracked cfg n t) (hdst : (t.to.chain == cfg.bxh) = false)
    (hB : ∀ j (hj : j < blocks.length), BlockOk cfg (runBlocks cfg n (blocks.take j)) blocks[j] t)
    (st : Status) (hst : recStatus (runBlocks cfg n blocks).led t = some st) (hf : st.isFinal = true) :
    ∀ d, (runBlocks cfg n blocks).height < d → TId.single t ∉ getTimeoutList (runBlocks cfg n blocks).led d :=
  fun d hd hm => ((C04_history_tracked cfg blocks n t hT hdst hB).final_of_status hst hf).unlisted d hd (listedAt_of_mem_getTimeoutList hm)

/-- **an open transaction is on the lists still to come at most once, and only under the deadline its record names**, at every
block boundary of every history that starts on a fresh chain — so it can be listed as timed out in one block only, the block of its
recorded deadline, and a transaction recorded without a deadline (T = 0: `maxU64`) is on no list a block will ever read -/
theorem C06_open_listed_only_under_its_deadline (cfg : Cfg) (blocks : List (List (Tx × Bool))) (n : Node) (t : TxId)
    (hT : Tracked cfg n t) (hdst : (t.to.chain == cfg.bxh) = false)
    (hB : ∀ j (hj : j < blocks.length), BlockOk cfg (runBlocks cfg n (blocks.take j)) blocks[j] t)
    (r : Rec) (hr : (runBlocks cfg n blocks).led.getS (.txRec t) = some (.trec r)) (d : Nat)
    (hd : (runBlocks cfg n blocks).height < d) (hm : TId.single t ∈ getTimeoutList (runBlocks cfg n blocks).led d) :
    d = r.height ∧ r.status.isFinal = false ∧ listCount (runBlocks cfg n blocks).led d t = 1 := by
  have hTe := C04_history_tracked cfg blocks n t hT hdst hB
  have hl := listedAt_of_mem_getTimeoutList hm
  cases hTe with
  | fresh hN hul => exact absurd hl (listCount_eq_zero.mp (hul d hd))
  | opened rec0 hO hopen =>
    rw [hO.recd] at hr
    cases hr
    exact ⟨hO.only d hd hl, hopen, Nat.le_antisymm (hO.cnt d hd) (listedAt_iff_count.mp hl)⟩
  | final st' hF _ => exact absurd hl (hF.unlisted d hd)

/-- **the transactions of a block neither add a one-to-one id to a timeout list nor take one off**: after any block's transactions
every one-to-one id is on every list exactly as often as before (only the bookkeeping at the end of the block edits them), and the
lists stay well-formed -/
theorem C06_transactions_leave_the_lists_alone (cfg : Cfg) (n : Node) (txs : List (Tx × Bool)) (d : Nat) (t : TxId) :
    listCount (applyTxs cfg n.cache (n.height + 1) n.led txs).led d t = listCount n.led d t :=
  applyTxs_count_eq cfg n.cache (n.height + 1) n.led txs d t

/-! ## the positive half: an unanswered request is on the list of H+T and times out in that block -/

theorem no_remove_of_unanswered (cfg : Cfg) (l : Led) (h : Nat) (t : TxId) (rec0 : Rec) (zs : List (Tx × Rcpt))
    (hrec : l.getS (.txRec t) = some (.trec rec0)) (hopen : rec0.status.isFinal = false)
    (hall : ∀ p ∈ zs, RespFor t p.1 → p.2.ok = false) (d : Nat) :
    t ∉ remsAt d (zs.map (fun p => timeoutAct cfg l h p.1 p.2)) := by
  intro hm
  obtain ⟨pr, hpr, hact⟩ := List.mem_map.mp (mem_remsAt_iff.mp hm)
  obtain ⟨s, i, p, htx, hfr, hto, hix, _, ⟨_, hfi⟩ | ⟨hresp, _, r, hr, hdone, _⟩⟩ := timeoutAct_eq_remove.mp hact
  · rw [finalInterRecord_none_of_open hrec hopen] at hfi; cases hfi
  · cases hrec.symm.trans hr
    rcases hdone with hp | hf
    · cases (hall pr hpr ⟨s, i, p, htx, hresp, hfr, hto, hix⟩).symm.trans hp.1
    · rw [hopen] at hf; cases hf

/-- `hpos` is not used -/
theorem setTimeoutList_count_eq (cfg : Cfg) (l : Led) (h : Nat) (txs : List Tx) (rcpts : List Rcpt) (d : Nat) (t : TxId)
    (hna : ((txs.zip rcpts).map (fun p => timeoutAct cfg l h p.1 p.2)).contains .abort = false)
    (hR : t ∉ remsAt d ((txs.zip rcpts).map (fun p => timeoutAct cfg l h p.1 p.2)))
    (hpos : 0 < listCount l d t + (addsAt d ((txs.zip rcpts).map (fun p => timeoutAct cfg l h p.1 p.2))).count t) :
    listCount (setTimeoutList cfg l h txs rcpts) d t =
      listCount l d t + (addsAt d ((txs.zip rcpts).map (fun p => timeoutAct cfg l h p.1 p.2))).count t := by
  exact setTimeoutList_count_of_not_mem hna hR

theorem block_unanswered_count (cfg : Cfg) (n : Node) (txs : List (Tx × Bool)) (t : TxId) (rec0 : Rec)
    (hO : OpenInv { cfg := cfg, cache := n.cache, height := 0, txIndex := 0 } n.led n.height t rec0)
    (hopen : rec0.status.isFinal = false)
    (hnd : ∀ p ∈ txs, ∀ sg args, p.1 ≠ .bvm sg "interchain" "DeleteInterchain" args)
    (hna : NoAbort cfg n txs)
    (hsame : (applyTxs cfg n.cache (n.height + 1) n.led txs).led.getS (.txRec t) = some (.trec rec0)) (d : Nat) :
    listCount (execBlock cfg n txs).1.led d t = listCount n.led d t := by
  -- the block adds `t` nowhere (no request naming it is accepted) and takes it off nowhere (no receipt for it is accepted)
  obtain ⟨-, hq, -, hfin⟩ := block_open_loop cfg n txs t rec0 hO.pair hO.recd hnd
  -- an accepted receipt would have made the record final, and `rec0` is not
  have hall : ∀ p ∈ blockPairs cfg n txs, RespFor t p.1 → p.2.ok = false := fun p hp hresp => Bool.eq_false_iff.mpr fun hok => by
    obtain ⟨st, hf, hr⟩ := hfin p hp hresp hok
    rw [hsame] at hr
    rw [congrArg Rec.status (Val.trec.inj (Option.some.inj hr)), hf] at hopen
    cases hopen
  rw [execBlock_count_eq cfg n txs d t hna (no_remove_of_unanswered cfg _ _ t rec0 _ hsame hopen hall d), blockActs, adds_none hq]
  rfl

theorem listAfter_wf (v : Option Val) (A R : List TxId) (h : WFV v) : WFV (listAfter v A R) := by
  rw [wfv_iff, curList_listAfter]
  exact wfl_bookRems (wfl_bookAdds ((wfv_iff v).mp h) A) R

theorem execBlock_wf (cfg : Cfg) (n : Node) (txs : List (Tx × Bool)) (hna : NoAbort cfg n txs)
    (h : ∀ d, WFV (n.led.getS (.timeout d))) : ∀ d, WFV ((execBlock cfg n txs).1.led.getS (.timeout d)) := by
  intro d
  rw [execBlock_led, blockEnd_timeout]
  exact setTimeoutList_wf _ _ _ _ (applyTxs_wf cfg n.cache (n.height + 1) n.led txs h d)

/-- **due**: an open one-to-one transaction whose deadline is still to come and which is on the list of that deadline exactly once -/
structure Due (cfg : Cfg) (n : Node) (t : TxId) (rec0 : Rec) : Prop where
  opn : OpenInv { cfg := cfg, cache := n.cache, height := 0, txIndex := 0 } n.led n.height t rec0
  begun : rec0.status.isFinal = false
  ahead : n.height < rec0.height
  listed : listCount n.led rec0.height t = 1
  wf : ∀ d, WFV (n.led.getS (.timeout d))

/-- **an unanswered request stays listed under its deadline**: a block before the deadline block that accepts no receipt for `t`
(its record after the block's transactions is what it was) leaves `t` due -/
theorem C06_block_keeps_due (cfg : Cfg) (n : Node) (txs : List (Tx × Bool)) (t : TxId) (rec0 : Rec)
    (hD : Due cfg n t rec0)
    (hnd : ∀ p ∈ txs, ∀ sg args, p.1 ≠ .bvm sg "interchain" "DeleteInterchain" args)
    (hna : NoAbort cfg n txs)
    (hsame : (applyTxs cfg n.cache (n.height + 1) n.led txs).led.getS (.txRec t) = some (.trec rec0))
    (hlt : n.height + 1 < rec0.height) :
    Due cfg (execBlock cfg n txs).1 t rec0 := by
  obtain ⟨rec', hO', hc⟩ := C04_block_open_stays cfg n txs t rec0 hD.opn hnd hsame
  obtain rfl : rec' = rec0 := hc.resolve_right fun h => Nat.ne_of_gt hlt h.1
  refine ⟨hO', hD.begun, by rw [execBlock_height]; exact hlt, ?_, execBlock_wf cfg n txs hna hD.wf⟩
  rw [block_unanswered_count cfg n txs t rec' hD.opn hD.begun hnd hna hsame]
  exact hD.listed

/-- **… and times out in the block of its deadline**: if the deadline block accepts no receipt for `t` either, its timeout step finds
`t` on the list and moves it to BEGIN_ROLLBACK (`hg`: the groups on that list have their records, so the step is not abandoned) -/
theorem C06_block_fires_due (cfg : Cfg) (n : Node) (txs : List (Tx × Bool)) (t : TxId) (rec0 : Rec)
    (hD : Due cfg n t rec0)
    (hnd : ∀ p ∈ txs, ∀ sg args, p.1 ≠ .bvm sg "interchain" "DeleteInterchain" args)
    (hna : NoAbort cfg n txs)
    (hsame : (applyTxs cfg n.cache (n.height + 1) n.led txs).led.getS (.txRec t) = some (.trec rec0))
    (hdl : n.height + 1 = rec0.height)
    (hg : GlobalsPresent (setTimeoutList cfg (applyTxs cfg n.cache (n.height + 1) n.led txs).led (n.height + 1) (txs.map (·.1))
        (applyTxs cfg n.cache (n.height + 1) n.led txs).rcpts)
      (getTimeoutList (setTimeoutList cfg (applyTxs cfg n.cache (n.height + 1) n.led txs).led (n.height + 1) (txs.map (·.1))
        (applyTxs cfg n.cache (n.height + 1) n.led txs).rcpts) (n.height + 1))) :
    tmGetStatus (execBlock cfg n txs).1.led t = some .beginRollback := by
  -- `t` is still on the list of its deadline, once, when the timeout step of this block reads it
  have hcnt := block_unanswered_count cfg n txs t rec0 hD.opn hD.begun hnd hna hsame (n.height + 1)
  rw [execBlock_led, blockEnd_listCount, hdl, hD.listed] at hcnt
  have hwfS := setTimeoutList_wf cfg (n.height + 1) (txs.map (·.1)) (applyTxs cfg n.cache (n.height + 1) n.led txs).rcpts
    (applyTxs_wf cfg n.cache (n.height + 1) n.led txs hD.wf (n.height + 1))
  have hfire := C06_fires_at_deadline _ (n.height + 1) t (mem_getTimeoutList_of_count hwfS (by rw [hdl, hcnt]; exact Nat.one_pos)) hg
  unfold tmGetStatus at hfire ⊢
  rw [execBlock_led, blockEnd]
  simp only [finalise_getS]
  exact hfire

/-- **an accepted request with a deadline is due from the block that accepts it**: `t` is new when block `h = n.height + 1` starts; the
block carries a request for `t` with `0 < T < maxU64 - h` whose receipt is a success (not a batch answer, not the begin-failure
mark) and no receipt transaction for `t`.  After the block `t` has an open record with deadline `h + T` and is on the list of `h + T`
exactly once -/
theorem C06_block_opens_due (cfg : Cfg) (n : Node) (txs : List (Tx × Bool)) (t : TxId)
    (hN : NewInv { cfg := cfg, cache := n.cache, height := 0, txIndex := 0 } n.led t)
    (hul : ∀ d, n.height < d → listCount n.led d t = 0)
    (hwf : ∀ d, WFV (n.led.getS (.timeout d)))
    (hdst : (t.to.chain == cfg.bxh) = false)
    (hnd : ∀ p ∈ txs, ∀ sg args, p.1 ≠ .bvm sg "interchain" "DeleteInterchain" args)
    (hng : ∀ p ∈ txs, ∀ s i pk, p.1 = .ibtp s i pk → reqFor t p.1 = true → i.group = none)
    (hna : NoAbort cfg n txs)
    (hnoresp : ∀ p ∈ txs, ¬ RespFor t p.1)
    (s : String) (i : Ibtp) (pk : ProofKind) (rc : Rcpt)
    (hacc : (Tx.ibtp s i pk, rc) ∈ (txs.map (·.1)).zip (applyTxs cfg n.cache (n.height + 1) n.led txs).rcpts)
    (hrf : reqFor t (.ibtp s i pk) = true) (hok : rc.ok = true) (hnb : (rc.ret == "batch_ibtp") = false)
    (hts : (rc.txStatus == 1) = false) (hT : 0 < i.timeout) (hT2 : i.timeout.toNat < maxU64 - (n.height + 1)) :
    ∃ rec, rec.height = n.height + 1 + i.timeout.toNat ∧ Due cfg (execBlock cfg n txs).1 t rec := by
  obtain ⟨hreq, hfr, hto, hix⟩ : i.typ.isRequest = true ∧ i.frm = some t.frm ∧ i.to = some t.to ∧ i.index = t.index := by
    obtain ⟨s', i', p', e, h⟩ := reqFor_elim hrf
    cases e; exact h
  have hgi : i.group = none := by
    obtain ⟨q, hq, e⟩ := List.mem_map.mp (List.of_mem_zip hacc).1
    exact hng q hq s i pk e (by rw [e]; exact hrf)
  -- the bookkeeping puts `t` on the list of its deadline and takes it off no list: after the block it is there
  have hadd : t ∈ addsAt (n.height + 1 + i.timeout.toNat) (blockActs cfg n txs) :=
    mem_addsAt_iff.mpr (List.mem_map.mpr ⟨_, hacc, timeoutAct_eq_add.mpr ⟨s, i, pk, rfl, hfr, hto, hix, hreq,
      unbooked_eq_false.mpr ⟨ne_of_beq_false hdst, .inl hgi⟩, finalInterRecord_none_of_local _ t hN.loc, ⟨hok, by simpa using hnb⟩, by simpa using hts, hT, hT2, rfl⟩⟩)
  have hnorem : t ∉ remsAt (n.height + 1 + i.timeout.toNat) (blockActs cfg n txs) := by
    intro hm
    obtain ⟨pr, hpr, hact⟩ := List.mem_map.mp (mem_remsAt_iff.mp hm)
    obtain ⟨s', i', p', htx, hfr', hto', hix', _, ⟨_, hfi⟩ | ⟨hresp, _⟩⟩ := timeoutAct_eq_remove.mp hact
    · rw [finalInterRecord_none_of_local _ t hN.loc] at hfi; cases hfi
    · obtain ⟨q, hq, e⟩ := List.mem_map.mp (List.of_mem_zip hpr).1
      exact hnoresp q hq ⟨s', i', p', e.trans htx, hresp, hfr', hto', hix'⟩
  have hpos : 0 < listCount (execBlock cfg n txs).1.led (n.height + 1 + i.timeout.toNat) t := by
    rw [execBlock_count_eq cfg n txs _ t hna hnorem]
    exact Nat.lt_of_lt_of_le (List.count_pos_iff.mpr hadd) (Nat.le_add_left _ _)
  have hlt : (execBlock cfg n txs).1.height < n.height + 1 + i.timeout.toNat := by
    rw [execBlock_height]; exact Nat.lt_add_of_pos_right (Int.lt_toNat.mpr hT)
  -- so of the three outcomes of the block for a new transaction it is the open one, under that deadline
  rcases C04_block_fresh_step cfg n txs t hN hul hdst hnd hng hna with ⟨-, hz⟩ | ⟨rec, hO, hnf⟩ | ⟨st, hF, -⟩
  · rw [hz _ hlt] at hpos; cases hpos
  · have hrh := hO.only _ hlt (listedAt_iff_count.mpr hpos)
    exact ⟨rec, hrh.symm, hO, hnf, hrh ▸ hlt, by rw [← hrh]; exact Nat.le_antisymm (hO.cnt _ hlt) hpos, execBlock_wf cfg n txs hna hwf⟩
  · exact absurd (listedAt_iff_count.mpr hpos) (hF.unlisted _ hlt)

/-- a block that does not answer `t`: nobody calls the unguarded `DeleteInterchain`, the bookkeeping is not abandoned, and the record
of `t` after the block's transactions is what it was (no receipt for it was accepted) -/
structure Unanswered (cfg : Cfg) (n : Node) (txs : List (Tx × Bool)) (t : TxId) (rec0 : Rec) : Prop where
  nodelete : ∀ p ∈ txs, ∀ sg args, p.1 ≠ .bvm sg "interchain" "DeleteInterchain" args
  noabort : NoAbort cfg n txs
  same : (applyTxs cfg n.cache (n.height + 1) n.led txs).led.getS (.txRec t) = some (.trec rec0)

/-- **listed under H+T at every block boundary before the deadline**: over any history of blocks that ends before the deadline block
and answers `t` in none of them, `t` stays due — open, on the list of its deadline exactly once -/
theorem C06_history_keeps_due (cfg : Cfg) (blocks : List (List (Tx × Bool))) (n : Node) (t : TxId) (rec0 : Rec)
    (hD : Due cfg n t rec0) (hlen : n.height + blocks.length < rec0.height)
    (hB : ∀ j (hj : j < blocks.length), Unanswered cfg (runBlocks cfg n (blocks.take j)) blocks[j] t rec0) :
    Due cfg (runBlocks cfg n blocks) t rec0 :=
  runBlocks_inv cfg (Due cfg · t rec0) (fun n b => Unanswered cfg n b t rec0 ∧ n.height + 1 < rec0.height)
    (fun n b hD hU => C06_block_keeps_due cfg n b t rec0 hD hU.1.nodelete hU.1.noabort hU.1.same hU.2) blocks n hD
    fun j hj => ⟨hB j hj, by rw [runBlocks_height, List.length_take]; omega⟩

/-- **an unanswered request times out in the block of its deadline, H+T**: `t` is due (accepted at height H with 0 < T: open, on the
list of H+T once); the blocks up to and including the block of height H+T answer it in none of them.  Then after the deadline block
its status is BEGIN_ROLLBACK — the timeout step of that block found it on its list (`hg`: the groups on that list have their records,
so the step is not abandoned) -/
theorem C06_unanswered_request_times_out (cfg : Cfg) (blocks : List (List (Tx × Bool))) (last : List (Tx × Bool)) (n : Node) (t : TxId)
    (rec0 : Rec) (hD : Due cfg n t rec0) (hlen : n.height + blocks.length + 1 = rec0.height)
    (hB : ∀ j (hj : j < blocks.length), Unanswered cfg (runBlocks cfg n (blocks.take j)) blocks[j] t rec0)
    (hL : Unanswered cfg (runBlocks cfg n blocks) last t rec0)
    (hg : let m := runBlocks cfg n blocks
      let l2 := setTimeoutList cfg (applyTxs cfg m.cache (m.height + 1) m.led last).led (m.height + 1) (last.map (·.1))
        (applyTxs cfg m.cache (m.height + 1) m.led last).rcpts
      GlobalsPresent l2 (getTimeoutList l2 (m.height + 1))) :
    tmGetStatus (runBlocks cfg n (blocks ++ [last])).led t = some .beginRollback := by
  have hD' := C06_history_keeps_due cfg blocks n t rec0 hD (by omega) hB
  rw [runBlocks_append, runBlocks_cons, runBlocks_nil]
  exact C06_block_fires_due cfg _ last t rec0 hD' hL.nodelete hL.noabort hL.same (by rw [runBlocks_height]; omega) hg

/-- **from the block that accepts it to the block of H+T**: `t` is new when block H = `n.height + 1` starts; that block accepts a
request for `t` with `0 < T < maxU64 - H` (receipt a success, neither a batch answer nor the begin-failure mark) and carries no receipt
for it; the `T - 1` blocks after it and the block of height H+T (`last`) accept no receipt for `t`.  Then the record of `t` names the
deadline H+T, and after the block of height H+T its status is BEGIN_ROLLBACK: it timed out in exactly that block (before it the
status is the one the request left: `C06_history_keeps_due`) -/
theorem C06_request_unanswered_until_H_plus_T_times_out (cfg : Cfg) (n : Node) (first : List (Tx × Bool)) (t : TxId)
    (hN : NewInv { cfg := cfg, cache := n.cache, height := 0, txIndex := 0 } n.led t)
    (hul : ∀ d, n.height < d → listCount n.led d t = 0)
    (hwf : ∀ d, WFV (n.led.getS (.timeout d)))
    (hdst : (t.to.chain == cfg.bxh) = false)
    (hnd : ∀ p ∈ first, ∀ sg args, p.1 ≠ .bvm sg "interchain" "DeleteInterchain" args)
    (hng : ∀ p ∈ first, ∀ s i pk, p.1 = .ibtp s i pk → reqFor t p.1 = true → i.group = none)
    (hna : NoAbort cfg n first)
    (hnoresp : ∀ p ∈ first, ¬ RespFor t p.1)
    (s : String) (i : Ibtp) (pk : ProofKind) (rc : Rcpt)
    (hacc : (Tx.ibtp s i pk, rc) ∈ (first.map (·.1)).zip (applyTxs cfg n.cache (n.height + 1) n.led first).rcpts)
    (hrf : reqFor t (.ibtp s i pk) = true) (hok : rc.ok = true) (hnb : (rc.ret == "batch_ibtp") = false)
    (hts : (rc.txStatus == 1) = false) (hT : 0 < i.timeout) (hT2 : i.timeout.toNat < maxU64 - (n.height + 1))
    (rec0 : Rec) (hrec0 : (execBlock cfg n first).1.led.getS (.txRec t) = some (.trec rec0))
    (blocks : List (List (Tx × Bool))) (last : List (Tx × Bool)) (hlen : blocks.length + 1 = i.timeout.toNat)
    (hB : ∀ j (hj : j < blocks.length), Unanswered cfg (runBlocks cfg (execBlock cfg n first).1 (blocks.take j)) blocks[j] t rec0)
    (hL : Unanswered cfg (runBlocks cfg (execBlock cfg n first).1 blocks) last t rec0)
    (hg : let m := runBlocks cfg (execBlock cfg n first).1 blocks
      let l2 := setTimeoutList cfg (applyTxs cfg m.cache (m.height + 1) m.led last).led (m.height + 1) (last.map (·.1))
        (applyTxs cfg m.cache (m.height + 1) m.led last).rcpts
      GlobalsPresent l2 (getTimeoutList l2 (m.height + 1))) :
    rec0.height = n.height + 1 + i.timeout.toNat ∧
    tmGetStatus (runBlocks cfg n (first :: (blocks ++ [last]))).led t = some .beginRollback := by
  obtain ⟨rec, hrh, hD⟩ := C06_block_opens_due cfg n first t hN hul hwf hdst hnd hng hna hnoresp s i pk rc hacc hrf hok hnb hts hT hT2
  cases hrec0.symm.trans hD.opn.recd
  refine ⟨hrh, ?_⟩
  have := C06_unanswered_request_times_out cfg blocks last (execBlock cfg n first).1 t rec0 hD
    (by rw [execBlock_height]; omega) hB hL hg
  rwa [runBlocks_cons]

/-- non-vacuity of `Due`: request 1 of the pair c1:s1 → c2:s1, accepted at height 7 with T = 4 (BEGIN, deadline 11, on the list of 11
once), is due at height 8 -/
example :
    let svc : Svc := { ordered := true, blacklist := [], available := true }
    let s11 : SvcId := { bxh := "1356", chain := "c1", sid := "s1" }
    let s21 : SvcId := { bxh := "1356", chain := "c2", sid := "s1" }
    let t : TxId := { frm := s11, to := s21, index := 1 }
    let n : Node := { height := 8, led := { store := [(.svc "c1" "s1", .svc svc), (.svc "c2" "s1", .svc svc),
      (.txRec t, .trec { height := 11, status := .begin }), (.ic s11, .ic { ic := [(s21, 1)] }), (.timeout 11, .tlist [some (.single t)])] } }
    Due {} n t { height := 11, status := .begin } := by
  intro svc s11 s21 t n
  have hnone : ∀ d, d ≠ 11 → n.led.getS (.timeout d) = none := by
    intro d hd
    simp [n, Led.getS, KV.get]
    intro e; exact hd e.symm
  refine ⟨⟨⟨(OrderedDst.of_stored (sv := svc) (by decide) (by decide) rfl rfl rfl), by decide, rfl⟩, by decide, ?_, ?_⟩, rfl, by decide, by decide, ?_⟩
  · intro d _
    unfold listCount
    by_cases hd : d = 11
    · subst hd; decide
    · rw [hnone d hd]; exact Nat.zero_le _
  · rintro d _ ⟨lst, e, _⟩
    by_cases hd : d = 11
    · exact hd
    · rw [hnone d hd] at e; cases e
  · intro d lst e
    by_cases hd : d = 11
    · subst hd
      cases e
      right; intro x hx; simp at hx; rw [hx]; simp
    · rw [hnone d hd] at e; cases e

end Bxh.Props.C06
