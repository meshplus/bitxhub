import Bxh.Props.C13b
/-!
# C01 — "… does not depend on … in-memory caches, or on whether and where the node was stopped and restarted in between"

At the level of the state ledger a restarted replica differs from a running one in exactly one thing: its caches are empty.  Block
execution reaches the state only through reads (`GetState`, `GetBalance`, `GetNonce`, …), so what has to be shown is that no read can
tell the two apart.  These are the C13 theorems, stated for two replicas.
-/
namespace Bxh.Props.C01
open Bxh Bxh.Ledger

/-- a replica that ran since the last commit and a replica that was stopped and started again on the same database: between two
blocks, with caches that agree with the database (`CacheDb`: re-established by every committed block,
`C13_commit_reestablishes_cache_coherence`; `InnerDb`: a hypothesis; both evaluated by the model driver on every generated history),
every storage key, balance and nonce of every account reads alike on the two -/
theorem C01_restarted_replica_reads_alike (running restarted : L) (hno : running.accounts = []) (hD : CacheDb running) (hI : InnerDb running)
    (hr : reopen running = some restarted) (a : Addr) (k : String) :
    ((getState restarted a k).2).getD "" = ((getState running a k).2).getD "" ∧
    (getBalance restarted a).2 = (getBalance running a).2 ∧ (getNonce restarted a).2 = (getNonce running a).2 :=
  ⟨Bxh.Props.C13.C13_reopen_keeps_every_read running restarted hno hD hr a k,
   Bxh.Props.C13.C13_reopen_keeps_balance_and_nonce running restarted hno hI hr a⟩

/-- two running replicas whose LRU caches dropped different entries (here: one dropped the storage entry of `x` and the account
record of `y`, the other nothing): every storage key, balance and nonce reads alike, also in the middle of a block -/
theorem C01_cache_evictions_do_not_show (l : L) (hD : CacheDb l) (hI : InnerDb l) (x y : Addr) (a : Addr) (k : String) :
    ((getState { l with cache := { l.cache with state := KV.erase l.cache.state x } } a k).2).getD "" = ((getState l a k).2).getD "" ∧
    (getBalance { l with cache := { l.cache with inner := KV.erase l.cache.inner y } } a).2 = (getBalance l a).2 ∧
    (getNonce { l with cache := { l.cache with inner := KV.erase l.cache.inner y } } a).2 = (getNonce l a).2 :=
  ⟨Bxh.Props.C13.C13_eviction_keeps_every_read l hD x a k,
   Bxh.Props.C13.C13_inner_eviction_keeps_balance_and_nonce l hI y a⟩

end Bxh.Props.C01
