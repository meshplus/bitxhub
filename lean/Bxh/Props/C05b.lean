import Bxh.Gen.ChildCount
/-!
# C05 — "the global status becomes SUCCESS only after every declared child has reported success": what "declared" is

The number of children a one-to-many transaction waits for is fixed when its first child begins: `beginTransaction` hands it to the
transaction manager's `BeginMultiTXs`.  The model takes the number of entries of the group the IBTP carries — one per declared child,
also when two children name the same destination service.  The expression the code uses is extracted on every run.
-/
namespace Bxh.Props.C05

/-- the count handed to `BeginMultiTXs` is the number of entries of the IBTP's group (not, say, the number of distinct destinations) -/
theorem C05_child_count_is_the_number_of_group_entries : Bxh.Gen.multiChildCount = "uint64(len(ibtp.Group.Keys))" := rfl

end Bxh.Props.C05
