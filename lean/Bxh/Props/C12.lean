import Bxh.Proofs.LedgerRollback
import Bxh.Gen.JournalWindow
/-!
# C12 — rolling back to a retained height restores exactly that height's state
Theorems about `rollback`, `commit`, `pruneJournals` of `Bxh.Ledger`
(model of `RollbackState`, `Commit`, `removeJournalsBeforeBlock`).
-/
namespace Bxh.Props.C12
open Bxh Bxh.Ledger

/-- a rollback to a height above the head is refused (`ErrorRollbackToHigherNumber`); a refusal
returns no ledger at all, i.e. modifies nothing -/
theorem C12_refuse_higher (l : L) (t : Nat) (h : l.maxJ < t) : rollback l t = .error .higher := by
  simp [rollback, h]

/-- a rollback below the retained window is refused (`ErrorRollbackTooMuch`) — except the genesis
target 0 while the journal of height 1 is still retained -/
theorem C12_refuse_too_much (l : L) (t : Nat) (h1 : t ≤ l.maxJ) (h2 : t < l.minJ) (h3 : ¬ (l.minJ = 1 ∧ t = 0)) :
    rollback l t = .error .tooMuch := by
  have : ¬ l.maxJ < t := by omega
  simp [rollback, this, h2, h3]

/-- rolling back to the current height changes nothing -/
theorem C12_noop_at_head (l : L) (hw : l.minJ ≤ l.maxJ) : rollback l l.maxJ = .ok l :=
  rollback_self l hw

/-- the lower end of the retained range after a commit (`m = 0`: the first commit) -/
def newMin (m h : Nat) : Nat :=
  let m1 := if m = 0 then h else m
  if h > journalWindow then (if h - journalWindow ≤ m1 then m1 else h - journalWindow) else m1

theorem commit_range (l l' : L) (h : Nat) (f : Flushed) (hc : commit l h f = some l') :
    l'.maxJ = h ∧ l'.minJ = newMin l.minJ h := by
  obtain ⟨bj, _, hC⟩ := commit_spec hc
  exact ⟨by rw [hC.eq], hC.minJ⟩

theorem newMin_eq_max (m h : Nat) : newMin m h = max (if m = 0 then h else m) (h - journalWindow) := by
  unfold newMin
  generalize (if m = 0 then h else m) = m1
  by_cases hw : h > journalWindow
  · rw [if_pos hw]
    by_cases hle : h - journalWindow ≤ m1
    · rw [if_pos hle, Nat.max_eq_left hle]
    · rw [if_neg hle, Nat.max_eq_right (Nat.le_of_not_le hle)]
  · rw [if_neg hw, Nat.sub_eq_zero_of_le (Nat.le_of_not_lt hw), Nat.max_zero]

/-- the retained rollback targets: the last `journalWindow` heights, and the genesis target while the journal of height 1 is kept -/
def Window (l : L) : Prop := l.minJ = (if l.maxJ = 0 then 0 else max 1 (l.maxJ - journalWindow))

/-- **window**: committing the next height keeps exactly the last `journalWindow` heights (and the
genesis target while the journal of height 1 is retained) as valid rollback targets -/
theorem C12_commit_keeps_window (l l' : L) (f : Flushed) (hw : Window l)
    (h : commit l (l.maxJ + 1) f = some l') : l'.maxJ = l.maxJ + 1 ∧ Window l' := by
  obtain ⟨h1, h2⟩ := commit_range l l' _ f h
  refine ⟨h1, ?_⟩
  unfold Window at hw ⊢
  rw [h1, h2, hw, newMin_eq_max, if_neg (Nat.succ_ne_zero _)]
  by_cases h0 : l.maxJ = 0
  · rw [h0]; rfl
  · -- the lower end was `max 1 (maxJ - window)`, not 0; and `maxJ - window ≤ maxJ + 1 - window`
    rw [if_neg h0, if_neg (Nat.ne_of_gt (Nat.lt_of_lt_of_le Nat.one_pos (Nat.le_max_left ..))), Nat.max_assoc,
      Nat.max_eq_right (Nat.sub_le_sub_right (Nat.le_succ _) _)]

/-- non-vacuity: a fresh ledger satisfies `Window` -/
example : Window ({} : L) := by simp [Window]

/-- **any number of blocks** (state store level): applying the journals of the blocks, newest first, to a database that
holds what their commits left gives back everything the database held before the first of them -/
theorem C12_reverting_journals_restores_any_height (bs : List (List Item)) (db D2 : DB) (hcoh : CohBlocks db bs)
    (hsame : ∀ b, SameAt b D2 (commitBlocks bs db)) (b : Addr) : SameAt b (revertBlocks bs D2) db := by
  induction bs generalizing db b with
  | nil => exact hsame b
  | cons items rest ih =>
    obtain ⟨h1, h2, h3⟩ := hcoh
    unfold revertBlocks
    exact reverts_commits items db _ h1 h2 (fun b' => ih (commits items db) h3 hsame b') b

/-- **any retained height, through `RollbackState`**: the ledger is `n ≥ 1` blocks above height `t`; the journals kept
for the heights `t+1 … t+n` are the entries of those blocks; each block's accounts mirrored the state store it was
committed on (`CohBlocks`), and the state store holds what those commits left.  Then a successful `RollbackState(t)`
leaves, for every address, exactly the account record, code and storage the state store held at height `t`. -/
theorem C12_rollback_restores_any_retained_height (J : Nat → List Item) (dbt : DB) (l l2 : L) (t n : Nat) (hn : 0 < n)
    (hm : l.maxJ = t + n)
    (hj : ∀ j, t < j → j ≤ t + n → ∃ bj, KV.get l.db.journals j = some bj ∧ bj.entries = (J j).map (fun p => entryOf p.1 p.2))
    (hcoh : CohBlocks dbt (blocksOf J t n))
    (hsame : ∀ b, SameAt b l.db (commitBlocks (blocksOf J t n) dbt))
    (hr : rollback l t = .ok l2) (b : Addr) : SameAt b l2.db dbt := by
  rw [rollback_spec J hm hj hr]
  exact C12_reverting_journals_restores_any_height (blocksOf J t n) dbt l.db hcoh hsame b

/-- **one block**: a block's dirty accounts are flushed (`FlushDirtyData`) and committed (`Commit`) as height `maxJ + 1`;
rolling the ledger back to the previous height (`RollbackState`) then restores, for every address, every account
record, every code entry and every storage key of the state store — whatever the block wrote, deleted or created -/
theorem C12_rollback_restores_previous_block (H : RootPre → String) (l l1 l2 : L)
    (hnd : (l.accounts.map (·.1)).Nodup)
    (hcoh : ∀ p ∈ l.accounts, Coh l.db p.1 (loadOrigin l p.1 p.2))
    (hc : commit (flush H l).1 (l.maxJ + 1) (flush H l).2 = some l1)
    (hr : rollback l1 l.maxJ = .ok l2) (b : Addr) : SameAt b l2.db l.db := by
  obtain ⟨bj, hbj, hC⟩ := commit_spec hc
  obtain ⟨bj', hbj', hent⟩ := flush_journal H l
  cases hbj.symm.trans hbj'
  -- the one block above the target is the block of the flushed accounts
  refine C12_rollback_restores_any_retained_height (fun _ => flushItems l) l.db l1 l2 l.maxJ 1 Nat.one_pos (by rw [hC.eq]) ?_
    ⟨flushItems_nodup hnd, fun p hp => ?_, trivial⟩ (fun b => by rw [hC.eq]; exact SameAt.refl b _) hr b
  · intro j h1 h2
    cases Nat.le_antisymm h2 h1
    exact ⟨bj, hC.journal, hent⟩
  · obtain ⟨acc, hmem, he, _⟩ := mem_flushItems.mp hp
    rw [he]
    exact hcoh (p.1, acc) hmem

/-- **the state-root chain continues from the target's root**: after a successful `RollbackState(t)` over `n ≥ 1` retained heights
the ledger is at height `t`, the root the next block is chained to is the root recorded in the journal of height `t` (the root that
block's `FlushDirtyData` computed; the zero root for `t = 0`), that journal is still there and the journals of the heights above
are gone — so the next flush hashes `prev = root(t)` (`C10_prev_root_in_preimage`) and a block executed again on the restored
state (`C12_rollback_restores_any_retained_height`) gets the root it got the first time -/
theorem C12_rollback_continues_root_chain (J : Nat → List Item) (l l2 : L) (t n : Nat) (hn : 0 < n) (hm : l.maxJ = t + n)
    (hj : ∀ j, t < j → j ≤ t + n → ∃ bj, KV.get l.db.journals j = some bj ∧ bj.entries = (J j).map (fun p => entryOf p.1 p.2))
    (hr : rollback l t = .ok l2) :
    l2.maxJ = t ∧ l2.accounts = [] ∧
    (t = 0 → l2.prevRoot = zeroRoot) ∧
    (t ≠ 0 → ∃ bj, KV.get l.db.journals t = some bj ∧ KV.get l2.db.journals t = some bj ∧ l2.prevRoot = bj.root) ∧
    ∀ (H : RootPre → String), (flush H l2).2.pre.prev = l2.prevRoot := by
  obtain ⟨e, hjs, h0, h1⟩ := rollback_below (show t < l.maxJ by omega) hr
  refine ⟨by rw [e], by rw [e], h0, fun ht => ?_, fun H => rfl⟩
  obtain ⟨bj, hbj, hroot⟩ := h1 ht
  exact ⟨bj, by rw [← hjs t (Nat.le_refl _)]; exact hbj, hbj, hroot⟩

/-! non-vacuity: a ledger at height 3 whose block changes the balance and nonce of account 1, deletes its key `k`, creates
its key `k2` and creates account 2 meets the hypotheses; the commit as height 4 and the rollback to 3 both succeed -/
section Example
def exI15 : Inner := { nonce := 1, balance := 5 }
def exI27 : Inner := { nonce := 2, balance := 7 }
def exI09 : Inner := { nonce := 0, balance := 9 }
def exBj3 : BlockJournal := { entries := [], root := "r3" }
def exDb : DB := { acct := [(1, exI15)], state := [((1, "k"), "v")], journals := [(3, exBj3)], minH := 3, maxH := 3 }
def exAcc1 : Acct := { originAcc := some exI15, dirtyAcc := some exI27, originState := [("k", some "v"), ("k2", none)], dirtyState := [("k", none), ("k2", some "w")] }
def exAcc2 : Acct := { dirtyAcc := some exI09 }
def exL : L := { accounts := [(1, exAcc1), (2, exAcc2)], db := exDb, minJ := 3, maxJ := 3, prevRoot := "r3" }
def exH : RootPre → String := fun _ => "r4"

example : (exL.accounts.map (·.1)).Nodup ∧ (∀ p ∈ exL.accounts, Coh exL.db p.1 (loadOrigin exL p.1 p.2)) := by
  unfold Coh
  decide +kernel

example : ∃ l1 l2, commit (flush exH exL).1 (exL.maxJ + 1) (flush exH exL).2 = some l1 ∧ rollback l1 exL.maxJ = .ok l2 ∧
    l1.db.state = [((1, "k2"), "w")] ∧ l2.db.state = [((1, "k"), "v")] ∧ l2.db.acct = [(1, exI15)] := by
  refine ⟨_, _, rfl, rfl, ?_, ?_, ?_⟩ <;> decide
end Example

/-- the journal window the model prunes with is the one `Commit` is written with (the literal of `if height > N` and of
`removeJournalsBeforeBlock(height - N)`, extracted on every run) -/
theorem C12_journal_window_as_in_the_source : Bxh.Ledger.journalWindow = Bxh.Gen.journalWindow := rfl

end Bxh.Props.C12
