import Bxh.Proofs.ChainRollback
import Bxh.Proofs.ChainLinked
/-!
# C09 — the stored chain is hash-linked and every index agrees with the executed blocks
Theorems about `persist` and the getters of `Bxh.Chain` (model of `PersistExecutionResult`,
`GetBlock`, `GetBlockByHash`, `GetBlockHash`, `GetTransactionMeta`, `GetChainMeta`).
-/
namespace Bxh.Props.C09
open Bxh Bxh.Chain

/-- tables and index agree with the cached head: what `ledger.New` establishes and `persist` keeps -/
def Consistent (n : Node) : Prop :=
  n.blocks = n.cmeta.1 ∧ n.tbl.bodies.length = n.cmeta.1 ∧ n.tbl.txs.length = n.cmeta.1 ∧
  n.tbl.inter.length = n.cmeta.1

/-- **hash link and head**: the block persisted next has height head+1, its parent is the previous
head hash, and the chain meta afterwards names it with the cumulative interchain count -/
theorem C09_persist_links (n n' : Node) (b : Blk) (txs : List String) (ctr : KV String Nat)
    (h : persist n txs ctr = some (n', b)) :
    b.height = n.cmeta.1 + 1 ∧ b.parent = n.cmeta.2.1 ∧ b.txs = txs ∧
    n'.cmeta = (b.height, b.hash, countOf b + n.cmeta.2.2) ∧ n'.idx.metaDB = some n'.cmeta := by
  obtain ⟨rfl, _, _, rfl⟩ := persist_some h
  exact ⟨rfl, rfl, rfl, rfl, rfl⟩

/-- **lookups agree**: after persisting on a consistent node the new block is found by height (both
modes), by hash and by the height→hash index, with its interchain metadata and transaction count -/
theorem C09_persist_lookup (n n' : Node) (b : Blk) (txs : List String) (ctr : KV String Nat)
    (hc : Consistent n) (h : persist n txs ctr = some (n', b)) :
    getBlock n' b.height false = some b ∧ getBlock n' b.height true = some b ∧
    getByHash n' b.hash = some b ∧ getBlockHash n' b.height = some b.hash ∧
    getIMeta n' b.height = some b.counter ∧ getTxCount n' b.height = some b.txs.length := by
  obtain ⟨rfl, _, _, rfl⟩ := persist_some h
  obtain ⟨_, hbod, htx, hint⟩ := hc
  -- the new block is the last of each table
  exact stored_lookup (Nat.le_add_left 1 _) (getElem?_snoc_top hbod) (getElem?_snoc_top htx) (getElem?_snoc_top hint)
    (KV.get_set_eq ..) (KV.get_set_eq ..) (KV.get_set_eq ..)

/-- persisting keeps the node consistent -/
theorem C09_persist_consistent (n n' : Node) (b : Blk) (txs : List String) (ctr : KV String Nat)
    (hc : Consistent n) (h : persist n txs ctr = some (n', b)) : Consistent n' := by
  obtain ⟨hb, hbod, htx, hint⟩ := hc
  obtain ⟨rfl, _, _, rfl⟩ := persist_some h
  exact ⟨congrArg (· + 1) hb, length_snoc hbod, length_snoc htx, length_snoc hint⟩

/-- on a consistent node the append is always in order (no panic) -/
theorem C09_persist_total (n : Node) (txs : List String) (ctr : KV String Nat) (hc : Consistent n) :
    (persist n txs ctr).isSome = true := by
  unfold persist
  simp [hc.1]

example : Consistent ({} : Node) := by simp [Consistent]

/-- **after a rollback nothing above the target is found by height**: `RollbackBlockChain(t)` on a node whose blockfile is
as long as its chain removes, for every height above `t` up to the old head, the block (both modes), the height → hash
entry and the transaction-count entry, and the chain meta names height `t` -/
theorem C09_rollback_clears_above_target (n n' : Node) (t : Nat) (hb : n.blocks = n.cmeta.1) (ht : t < n.cmeta.1)
    (h : chainRollback n t = .ok n') :
    n'.cmeta.1 = t ∧ ∀ j, t < j → j ≤ n.cmeta.1 →
      getBlock n' j false = none ∧ getBlock n' j true = none ∧ getBlockHash n' j = none ∧ getTxCount n' j = none := by
  obtain ⟨n1, cnt, hl, hn'⟩ := (chainRollback_below ht).mp h
  obtain ⟨s1, s2, s4⟩ := loop_spec t _ _ _ n n1 cnt hl rfl (Nat.le_of_lt ht) hb
  have l1 := s4 (Or.inl ht)
  -- `n'` is `n1` with the chain meta written: that touches neither the tables nor the by-height maps
  obtain ⟨md, rfl, hc⟩ : ∃ md, n' = setMeta n1 md ∧ (setMeta n1 md).cmeta.1 = t := by
    rcases hn' with ⟨h0, rfl⟩ | ⟨_, b, _, rfl⟩
    · exact ⟨_, rfl, h0.symm⟩
    · exact ⟨_, rfl, rfl⟩
  refine ⟨hc, fun j hj1 hj2 => ?_⟩
  have hlen : (setMeta n1 md).tbl.bodies.length ≤ j - 1 := Nat.le_trans l1 (Nat.le_sub_one_of_lt hj1)
  refine ⟨getBlock_none _ hlen, getBlock_none _ hlen, (s1 j).trans (if_pos ⟨hj1, hj2⟩), ?_⟩
  show (KV.get n1.idx.txSet j).map _ = none
  rw [s2 j, if_pos ⟨hj1, hj2⟩]; rfl

/-- the same through `Ledger.Rollback` (state store first, then the chain) -/
theorem C09_ledger_rollback_clears_above_target (n n' : Node) (t : Nat) (hb : n.blocks = n.cmeta.1) (ht : t < n.cmeta.1)
    (h : rollback n t = .ok n') :
    n'.cmeta.1 = t ∧ ∀ j, t < j → j ≤ n.cmeta.1 →
      getBlock n' j false = none ∧ getBlock n' j true = none ∧ getBlockHash n' j = none ∧ getTxCount n' j = none := by
  obtain ⟨st', _, h⟩ := rollback_ok h
  exact C09_rollback_clears_above_target { n with st := st' } n' t hb ht h

/-- what `Linked` means for the getters: on a linked chain EVERY committed height `h` (not only the head) holds a block of
height `h` that both read modes return, that the height → hash index and the hash → block lookup agree on, whose parent hash is
the hash of the block stored at `h - 1` (the zero hash for the first block), and the chain meta names the hash of the head -/
theorem C09_every_height_linked_and_indexed (n : Node) (hL : Linked n) (h : Nat) (h1 : 1 ≤ h) (h2 : h ≤ n.cmeta.1) :
    ∃ b, getBlock n h false = some b ∧ getBlock n h true = some b ∧ b.height = h ∧
      getBlockHash n h = some b.hash ∧ getByHash n b.hash = some b ∧ getTxCount n h = some b.txs.length ∧
      (h = 1 → b.parent = "zero") ∧
      (2 ≤ h → ∃ p, getBlock n (h - 1) false = some p ∧ b.parent = p.hash) ∧
      (h = n.cmeta.1 → n.cmeta.2.1 = b.hash) := by
  obtain ⟨b, c1, g3, g1, g2, g5, g4, _, g6⟩ := hL.to.lookup h1 h2
  refine ⟨b, g1, g2, g3, g4, g5, g6, ?_, ?_, ?_⟩
  · rintro rfl; exact hL.to.first b c1
  · intro h3
    obtain ⟨k, rfl⟩ := Nat.exists_eq_add_of_le' h3
    obtain ⟨p, d1, _, d2, _⟩ := hL.to.lookup (Nat.succ_pos k) (Nat.le_of_succ_le h2)
    exact ⟨p, d2, hL.to.link k b p c1 d1⟩
  · rintro rfl; exact hL.head b c1 h1

/-- a transaction found by its hash is where the index says: the stored position names a committed height, the hash of the block
stored there, and an index at which that block's transaction list holds this very transaction (no dangling entry, also after rollbacks) -/
theorem C09_tx_lookup_agrees (n : Node) (hL : Linked n) (t : String) (h : Nat) (hs : String) (i : Nat)
    (hm : getTxMeta n t = some (h, hs, i)) :
    1 ≤ h ∧ h ≤ n.cmeta.1 ∧ getTx n t = some (some t) ∧ ∃ b, getBlock n h true = some b ∧ b.hash = hs ∧ b.txs[i]? = some t := by
  obtain ⟨a1, a2, b, a3, a4, a5⟩ := hL.to.txMeta t h hs i hm
  obtain ⟨b', c1, c2, c3, _, c5, c6, c7⟩ := hL.to.byHeight h a1 a2
  cases a3.symm.trans c2
  have h0 : ¬ h = 0 := Nat.ne_of_gt a1
  refine ⟨a1, a2, ?_, b, (stored_lookup a1 c1 c2 c3 c5 c6 c7).2.1, a4, a5⟩
  unfold getTxMeta at hm
  simp only [getTx, hm, h0, if_false, a3, a5]

/-- **over every history**: whatever sequence of blocks a node persisted (each with a hash that is not the hash of a block it
stores — no collision among the stored block hashes) and whatever rollbacks it went through in between, its chain is `Linked`;
with the two theorems above: every committed height is hash-linked to the one below and found by every lookup, every transaction
entry points into a committed block that contains it, and nothing is indexed above the head -/
theorem C09_history_chain_linked (n : Node) (h : Reach n) : Linked n := reach_linked n h

/-- **the chain meta's cumulative interchain count over every history**: after any sequence of persisted blocks and rollbacks the
count the chain meta carries is the sum of the per-block interchain counts of exactly the blocks that are stored — a rollback takes
off what the removed blocks had added, no more and no less -/
theorem C09_history_cumulative_interchain_count (n : Node) (h : Reach n) :
    n.cmeta.2.2 = ((n.tbl.inter.map countOf).sum) := reach_count n h

/-- … in particular nothing above the head is found by height, after any history -/
theorem C09_history_nothing_above_head (n : Node) (h : Reach n) (j : Nat) (hj : n.cmeta.1 < j) :
    getBlock n j false = none ∧ getBlock n j true = none := by
  have hlen : n.tbl.bodies.length ≤ j - 1 := (reach_linked n h).to.lenB ▸ Nat.le_sub_one_of_lt hj
  exact ⟨getBlock_none _ hlen, getBlock_none _ hlen⟩

/-- non-vacuity: two blocks persisted on the empty node, a rollback to height 1, another block: a reachable node -/
example : ∃ n1 b1 n2 b2 n3 n4 b4, persist {} ["t1"] [] = some (n1, b1) ∧ persist n1 ["t2", "t3"] [("c1", 2)] = some (n2, b2) ∧
    rollback n2 1 = .ok n3 ∧ persist n3 ["t4"] [] = some (n4, b4) ∧ n4.cmeta.1 = 2 ∧ b4.parent = b1.hash := by
  refine ⟨_, _, _, _, _, _, _, rfl, rfl, rfl, rfl, rfl, rfl⟩

-- non-vacuity: a node with two blocks rolled back to height 1
section Example
def exB1 : Blk := { height := 1, hash := "B1", parent := "zero", txs := ["t1"], counter := [] }
def exB2 : Blk := { height := 2, hash := "B2", parent := "B1", txs := ["t2", "t3"], counter := [] }
def exN : Node :=
  { idx := { txSet := [(2, ["t2", "t3"]), (1, ["t1"])], hashIdx := [("B2", 2), ("B1", 1)], heightIdx := [(2, "B2"), (1, "B1")],
             txMeta := [("t3", (2, "B2", 1)), ("t2", (2, "B2", 0)), ("t1", (1, "B1", 0))], metaDB := some (2, "B2", 0) },
    tbl := { hashes := [exB1, exB2], bodies := [exB1, exB2], txs := [exB1, exB2], rcpts := [exB1, exB2], inter := [exB1, exB2] },
    blocks := 2, cmeta := (2, "B2", 0) }

example : exN.blocks = exN.cmeta.1 ∧ 1 < exN.cmeta.1 ∧ (∃ n', chainRollback exN 1 = .ok n' ∧ getBlock n' 1 true = some exB1 ∧
    getByHash n' "B2" = none ∧ getTxMeta n' "t2" = none) := by
  refine ⟨by decide, by decide, _, rfl, ?_, ?_, ?_⟩ <;> decide
end Example

end Bxh.Props.C09
