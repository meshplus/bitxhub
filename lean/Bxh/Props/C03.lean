import Bxh.Model.Proof
import Bxh.Props.C07
import Bxh.Props.C08
/-!
# C03 — only IBTPs whose proof was verified for their origin can change state

Two models are involved.
* `Bxh.Exec.proofVerdict` + `applyTxs`/`applyTx`: what `verifyProofs` (executor.go) and the
  invalid-reason short-circuit of `applyBxhTransaction` do with the verdict.  The rule engine's
  answer for a well-formed proof is the parameter `cfg.rule` (the harness world binds HappyRule to
  c1, c2 and c4 and the SimFabric rule, which rejects the harness' proofs, to c3); "plain false" is the
  explicit `ProofKind.plainFalse`.
* `Bxh.Proof.multiSign`: the signature-threshold loop of `verifyMultiSign` for IBTPs relayed from
  another BitXHub, run against the real function with real secp256k1 signatures.
-/
namespace Bxh.Props.C03
open Bxh Bxh.Exec

/-- a proof is accepted exactly when its bytes hash to the committed value and are well formed (`ProofKind.ok`, or a `BxhProof`:
`ProofKind.msig`), the origin (source of a request, destination of a receipt) parses, and either the origin belongs to this
BitXHub and the rule bound to that chain accepts, or it belongs to another BitXHub that is registered here and the proof carries
more than `(n-1)/3` signatures of distinct registered validators of that hub (`min k n` of the `k` signers `val-1 … val-k` are
among the `n` registered ones) -/
theorem C03_verdict_none_iff (cfg : Cfg) (i : Ibtp) (p : ProofKind) :
    proofVerdict cfg i p = none ↔
      ∃ s, (if i.typ.isRequest then i.frm else i.to) = some s ∧
        ((s.bxh = cfg.bxh ∧ (p = .ok ∨ ∃ k, p = .msig k) ∧ cfg.rule s.chain = some true) ∨
         (s.bxh ≠ cfg.bxh ∧ ∃ k, p = .msig k ∧ cfg.hubs.contains s.bxh = true ∧ min k cfg.hubN > (cfg.hubN - 1) / 3)) := by
  unfold proofVerdict
  cases p with
  | none | bad | plainFalse => simp
  | ok | msig k =>
    cases (if i.typ.isRequest then i.frm else i.to) with
    | none => simp
    | some s =>
      simp only [Option.some.injEq, exists_eq_left']
      by_cases hb : s.bxh = cfg.bxh
      · -- what is left is about the rule's answer: `(match cfg.rule s.chain with …) = none ↔ cfg.rule s.chain = some true`
        simp [hb]
        cases cfg.rule s.chain with
        | none => simp
        | some b => cases b <;> simp
      · simp [hb]

/-- an IBTP relayed from a BitXHub that is not registered here is never accepted, whatever it carries -/
theorem C03_unregistered_hub_rejected (cfg : Cfg) (i : Ibtp) (p : ProofKind) (s : SvcId)
    (ho : (if i.typ.isRequest then i.frm else i.to) = some s) (hb : s.bxh ≠ cfg.bxh) (hh : cfg.hubs.contains s.bxh = false) :
    proofVerdict cfg i p ≠ none := by
  intro h
  obtain ⟨s', hs', hc⟩ := (C03_verdict_none_iff cfg i p).mp h
  rw [ho] at hs'; cases hs'
  rcases hc with ⟨h1, _⟩ | ⟨_, k, _, h2, _⟩
  · exact hb h1
  · rw [hh] at h2; cases h2

/-- too few signatures: with `n` registered validators, `k ≤ (n-1)/3` signers never pass -/
theorem C03_too_few_signatures_rejected (cfg : Cfg) (i : Ibtp) (k : Nat) (s : SvcId)
    (ho : (if i.typ.isRequest then i.frm else i.to) = some s) (hb : s.bxh ≠ cfg.bxh) (hk : k ≤ (cfg.hubN - 1) / 3) :
    proofVerdict cfg i (.msig k) ≠ none := by
  intro h
  obtain ⟨s', hs', hc⟩ := (C03_verdict_none_iff cfg i (.msig k)).mp h
  rw [ho] at hs'; cases hs'
  rcases hc with ⟨h1, _⟩ | ⟨_, k', hk', _, h3⟩
  · exact hb h1
  · cases hk'; omega

/-- every other proof (absent, hash mismatch, rule error, plain false, unknown / foreign / malformed origin) is rejected -/
theorem C03_bad_proof_rejected (cfg : Cfg) (i : Ibtp) :
    proofVerdict cfg i .none ≠ none ∧ proofVerdict cfg i .bad ≠ none ∧ proofVerdict cfg i .plainFalse ≠ none := by
  simp [proofVerdict]

/-- the verdict the block loop computes for a transaction: bad signature first, then the proof -/
def verdict (cfg : Cfg) (p : Tx × Bool) : Option String :=
  if !p.2 then some "bad-sig" else match p.1 with
    | .ibtp _ i pk => proofVerdict cfg i pk
    | _ => none

/-- **an IBTP that fails the check gets a FAILED receipt and changes nothing**: storage untouched,
no event (never listed), balances other than the sender's and the admins' untouched -/
theorem C03_unverified_ibtp_no_effect (env : Env) (l : Led) (s : String) (i : Ibtp) (pk : ProofKind) (r : String) :
    (applyTx env l (.ibtp s i pk) (some r)).2.rcpt.ok = false ∧
    (∀ k, (applyTx env l (.ibtp s i pk) (some r)).1.getS k = l.getS k) ∧
    (applyTx env l (.ibtp s i pk) (some r)).2.events = [] ∧
    (∀ a, a ≠ s → a ∉ env.cfg.admins → (applyTx env l (.ibtp s i pk) (some r)).1.getBal a = l.getBal a) := by
  have hfail := C08.C08_rejected_tx_gets_failed_receipt env l (.ibtp s i pk) r
  obtain ⟨l0, x, hs, e⟩ := C07.failed_is_charge env l _ _ hfail (.inl rfl)
  exact ⟨hfail, charge_keeps_storage hs e, C07.C07_failed_tx_not_listed env l _ _ hfail, charge_keeps_others hs e⟩

/-- **a successful IBTP receipt implies a verified proof and a valid signature**: in the block loop
a transaction whose verdict is not `none` never produces a successful receipt -/
theorem C03_success_needs_verified_proof (cfg : Cfg) (cache : KV (String × String) Svc) (h : Nat) (a : Acc) (p : Tx × Bool)
    (hv : verdict cfg p ≠ none) :
    ((C08.stepAcc cfg cache h a p).rcpts.getLast?.map (·.ok)) = some false := by
  show ((a.rcpts ++ [(applyTx _ a.led p.1 (verdict cfg p)).2.rcpt]).getLast?.map (·.ok)) = some false
  cases hr : verdict cfg p with
  | none => exact absurd hr hv
  | some r =>
    rw [List.getLast?_concat]
    exact congrArg some (C08.C08_rejected_tx_gets_failed_receipt ..)

open Bxh.Proof

theorem loop_ok_iff (th : Nat) (m : List String) (c : Nat) (sigs : List (Option String)) (hc : c ≤ th) :
    loop th m c sigs = .ok ↔ c + cnt m sigs > th := by
  -- along the clauses of `loop`: no signature left, one that does not recover, a validator's that reaches the threshold, a
  -- validator's that does not yet, a stranger's
  induction m, c, sigs using loop.induct th with
  | case1 m c =>
    simp [loop, cnt]
    omega
  | case2 m c r ih => exact ih hc
  | case3 m c a r hm hgt =>
    rw [loop, if_pos hm, if_pos hgt, cnt, if_pos hm]
    simp
    omega
  | case4 m c a r hm hgt ih =>
    rw [loop, if_pos hm, if_neg hgt, cnt, if_pos hm, ih (by omega)]
    omega
  | case5 m c a r hm ih =>
    rw [loop, if_neg hm, cnt, if_neg hm]
    exact ih hc

/-- **threshold**: a relayed IBTP is accepted iff strictly more than `(n-1)/3` of its signatures
count, where a signature counts when it recovers to a registered validator that has not been
counted before (`n` = length of the registered list) -/
theorem C03_multisign_ok_iff (validators : List String) (sigs : List (Option String)) :
    multiSign validators sigs = .ok ↔ cnt validators sigs > (validators.length - 1) / 3 := by
  unfold multiSign threshold
  rw [loop_ok_iff _ _ 0 _ (Nat.zero_le _)]
  omega

/-- a signature that does not recover, or recovers to an unregistered address, never counts -/
theorem C03_bad_signature_never_counts (m : List String) (rest : List (Option String)) (a : String) (ha : m.contains a = false) :
    cnt m (none :: rest) = cnt m rest ∧ cnt m (some a :: rest) = cnt m rest := by
  refine ⟨rfl, ?_⟩
  simp only [cnt, ha]
  rfl

/-- a validator is counted at most once: after its first signature it is no longer in the set -/
theorem C03_validator_counted_once (m : List String) (a : String) :
    (m.filter (· ≠ a)).contains a = false := by
  simp

/-- the count never exceeds the number of registered validators -/
theorem C03_count_le_validators (m : List String) (sigs : List (Option String)) : cnt m sigs ≤ m.length := by
  induction m, sigs using cnt.induct with
  | case1 m => exact Nat.zero_le _
  | case2 m r ih => exact ih
  | case3 m a r hm ih =>
    rw [cnt, if_pos hm]
    have : (m.filter (· ≠ a)).length < m.length :=
      List.length_filter_lt_length_iff_exists.mpr ⟨a, by simpa using hm, by simp⟩
    omega
  | case4 m a r hm ih =>
    rw [cnt, if_neg hm]
    exact ih

/-- no signatures, no acceptance — even for an empty or single-validator trust root -/
theorem C03_no_signature_rejected (validators : List String) : multiSign validators [] ≠ .ok := by
  simp [multiSign, loop]

/-- non-vacuity: 4 validators need 2 distinct registered signers; repeating one signer does not help -/
example : multiSign ["a", "b", "c", "d"] [some "a", some "b"] = .ok ∧
    multiSign ["a", "b", "c", "d"] [some "a", some "a", some "a", some "x", none] = .fail 1 := by decide +kernel

theorem cnt_nodup (signers : List String) (m : List String) (hnd : signers.Nodup) :
    cnt m (signers.map some) = (signers.filter (m.contains ·)).length := by
  induction signers generalizing m with
  | nil => simp [cnt]
  | cons a r ih =>
    obtain ⟨ha, hr⟩ := List.nodup_cons.mp hnd
    simp only [List.map_cons, cnt]
    have hcongr : r.filter ((m.filter (· ≠ a)).contains ·) = r.filter (m.contains ·) := by
      apply List.filter_congr
      intro x hx
      have hxa : x ≠ a := fun h => ha (h ▸ hx)
      simp [hxa]
    by_cases hm : m.contains a = true
    · simp only [hm, if_true, List.filter_cons]
      rw [ih _ hr, hcongr]
      simp [Nat.add_comm]
    · have hm' : m.contains a = false := by simpa using hm
      simp only [hm', List.filter_cons, Bool.false_eq_true, if_false]
      exact ih _ hr

/-- **the `msig k` verdict of the executor model is the threshold rule of `verifyMultiSign`**: with the registered validators `vs`
and `k` distinct signers — the validators in their order, then addresses nobody registered (`ext`) — the multi-signature check
accepts iff more than `(n-1)/3` of the `n` registered validators are among the signers, i.e. iff `min k n > (n-1)/3`: the very
condition `proofVerdict` uses for an IBTP relayed from a registered BitXHub (`C03_verdict_none_iff`).  (`multiSign` is compared
with the real `verifyMultiSign` over real secp256k1 signatures by the `msig` engine.) -/
theorem C03_msig_kind_is_threshold_rule (vs ext : List String) (k : Nat) (hnd : (vs ++ ext).Nodup) :
    multiSign vs (((vs ++ ext).take k).map some) = .ok ↔ min k vs.length > (vs.length - 1) / 3 := by
  rw [C03_multisign_ok_iff, cnt_nodup _ _ (List.Nodup.sublist (List.take_sublist _ _) hnd)]
  -- of the validators taken all are registered, of the strangers taken none
  rw [List.take_append, List.filter_append, List.length_append,
    List.filter_eq_self.mpr fun x hx => by simpa using List.mem_of_mem_take hx,
    List.filter_eq_nil_iff.mpr fun x hx hxv =>
      (List.nodup_append.mp hnd).2.2 x (by simpa using hxv) x (List.mem_of_mem_take hx) rfl,
    List.length_take]
  simp

-- non-vacuity: four validators, signers val-1 … val-k (val-5, val-6 unregistered): one signer fails, two pass, six pass
example :
    let vs := ["v1", "v2", "v3", "v4"]
    let ext := ["v5", "v6"]
    multiSign vs (((vs ++ ext).take 1).map some) ≠ .ok ∧ multiSign vs (((vs ++ ext).take 2).map some) = .ok ∧
    multiSign vs (((vs ++ ext).take 6).map some) = .ok := by decide +kernel

end Bxh.Props.C03
