import Bxh.Proofs.ExecBlock
import Bxh.Proofs.RouterLemmas
import Bxh.Proofs.TimeoutList
import Bxh.Proofs.TimeoutAct
/-!
# C06 — timeout rollback fires exactly at the timeout height and never otherwise
Theorems about the executor's timeout bookkeeping (`setTimeoutList`, `getTimeoutList`,
`setTimeoutRollback`) as modelled in `Bxh.Exec`.
-/
namespace Bxh.Props.C06
open Bxh Bxh.Exec

def plainReq (f t : SvcId) (idx : Nat) (T : Int) : Ibtp :=
  { frm := some f, to := some t, index := idx, typ := .interchain, timeout := T, group := none }

/-- an accepted plain request (receipt SUCCESS, not batch, not begin-failed, destination not the hub
itself) with `0 < T` and `H + T` not overflowing is put on the list of height `H + T` — no other -/
theorem C06_request_recorded_at_deadline (cfg : Cfg) (l : Led) (h : Nat) (s : String) (f t : SvcId) (idx : Nat)
    (T : Int) (p : ProofKind) (rc : Rcpt)
    (hok : rc.ok = true) (hnb : rc.ret ≠ "batch_ibtp") (hnf : rc.txStatus ≠ 1) (hdst : t.chain ≠ cfg.bxh)
    (hT : 0 < T) (hov : T.toNat < maxU64 - h)
    (hopen : finalInterRecord l { frm := f, to := t, index := idx } = none) :
    timeoutAct cfg l h (.ibtp s (plainReq f t idx T) p) rc = .add (h + T.toNat) { frm := f, to := t, index := idx } := by
  exact timeoutAct_eq_add.mpr ⟨s, _, p, rfl, rfl, rfl, rfl, rfl, unbooked_eq_false.mpr ⟨hdst, .inl rfl⟩, hopen, ⟨hok, hnb⟩, hnf, hT, hov, rfl⟩

/-- … and so is a request between two BitXHubs whatever it carries in its Group field (it is begun one-to-one): since the `fix:`
commit "a request between two BitXHubs that carries a Group times out like any other"; before, the executor left it to the group
bookkeeping of the transaction manager, which never heard of it, and it never timed out -/
theorem C06_interhub_request_with_group_recorded (cfg : Cfg) (l : Led) (h : Nat) (s : String) (f t : SvcId) (idx : Nat)
    (T : Int) (g : List (SvcId × Nat)) (p : ProofKind) (rc : Rcpt)
    (hok : rc.ok = true) (hnb : rc.ret ≠ "batch_ibtp") (hnf : rc.txStatus ≠ 1) (hdst : t.chain ≠ cfg.bxh) (hhub : f.bxh ≠ t.bxh)
    (hT : 0 < T) (hov : T.toNat < maxU64 - h)
    (hopen : finalInterRecord l { frm := f, to := t, index := idx } = none) :
    timeoutAct cfg l h (.ibtp s { plainReq f t idx T with group := some g } p) rc = .add (h + T.toNat) { frm := f, to := t, index := idx } := by
  exact timeoutAct_eq_add.mpr
    ⟨s, _, p, rfl, rfl, rfl, rfl, rfl, unbooked_eq_false.mpr ⟨hdst, .inr (.inr hhub)⟩, hopen, ⟨hok, hnb⟩, hnf, hT, hov, rfl⟩

/-- the hypothesis `hopen` above holds for every transaction inside one hub, and between two hubs as long as the record is not final -/
theorem finalInterRecord_none_of_local (l : Led) (id : TxId) (h : id.frm.bxh = id.to.bxh) : finalInterRecord l id = none := by
  simp [finalInterRecord, h]

theorem finalInterRecord_none_of_open {l : Led} {id : TxId} {r : Rec} (hrec : l.getS (.txRec id) = some (.trec r))
    (hw : r.status.isFinal = false) : finalInterRecord l id = none := by
  simp [finalInterRecord, hrec, hw]

/-- **the destination hub's notice takes the transaction off its list** (since the `fix:` commit "the destination hub's notice
ends an inter-BitXHub transaction for the timeout mechanism too"): a request between two hubs whose record is final by the end
of its block — whatever its receipt says, also "batch_ibtp" — asks for removal from the list of the recorded deadline and is
booked under no new one.  Before the fix it was booked under `h + T` like a fresh request and stayed on the first list. -/
theorem C06_notice_leaves_list (cfg : Cfg) (l : Led) (h : Nat) (s : String) (f t : SvcId) (idx : Nat)
    (T : Int) (x : Ext) (p : ProofKind) (rc : Rcpt) (r : Rec)
    (hdst : t.chain ≠ cfg.bxh) (hhub : f.bxh ≠ t.bxh)
    (hrec : l.getS (.txRec { frm := f, to := t, index := idx }) = some (.trec r)) (hfin : r.status.isFinal = true) :
    timeoutAct cfg l h (.ibtp s { plainReq f t idx T with ext := x } p) rc = .remove r.height { frm := f, to := t, index := idx } := by
  have hfi : finalInterRecord l { frm := f, to := t, index := idx } = some r.height := by
    simp [finalInterRecord, hrec, hfin, hhub]
  exact timeoutAct_eq_remove.mpr ⟨s, _, p, rfl, rfl, rfl, rfl, unbooked_eq_false.mpr ⟨hdst, .inl rfl⟩, .inl ⟨rfl, hfi⟩⟩

/-- requests with `T ≤ 0` (hence `T = 0`) or an overflowing `H + T` are never put on any list -/
theorem C06_zero_never (cfg : Cfg) (l : Led) (h : Nat) (s : String) (f t : SvcId) (idx : Nat)
    (T : Int) (p : ProofKind) (rc : Rcpt) (hT : T ≤ 0 ∨ T.toNat ≥ maxU64 - h)
    (hopen : finalInterRecord l { frm := f, to := t, index := idx } = none) :
    timeoutAct cfg l h (.ibtp s (plainReq f t idx T) p) rc = .skip := by
  exact timeoutAct_request_skip (f := f) (t := t) rfl rfl rfl hopen
    (fun ⟨_, _, h1, h2⟩ => hT.elim (Int.not_le.mpr h1) (Nat.not_le.mpr h2))

theorem rejected_not_accepted {rc : Rcpt} (hrej : rc.ok = false ∨ rc.ret = "batch_ibtp" ∨ rc.txStatus = 1) :
    ¬ (rc.plain ∧ rc.txStatus ≠ 1) :=
  fun ⟨hp, hs⟩ => hrej.elim (fun h => Rcpt.not_plain (.inl h) hp) (fun h => h.elim (fun h => Rcpt.not_plain (.inr h) hp) hs)

/-- a rejected request (FAILED receipt), a batch request and a begin-failed request are never listed: no list gains an entry
(between two hubs, with a final record, it is the notice and leaves the list: `C06_notice_leaves_list`) -/
theorem C06_rejected_never (cfg : Cfg) (l : Led) (h : Nat) (s : String) (i : Ibtp) (p : ProofKind) (rc : Rcpt)
    (hreq : i.typ.isResponse = false)
    (hrej : rc.ok = false ∨ rc.ret = "batch_ibtp" ∨ rc.txStatus = 1) (th : Nat) (id : TxId) :
    timeoutAct cfg l h (.ibtp s i p) rc ≠ .add th id := by
  intro e
  obtain ⟨_, _, _, _, _, _, _, _, _, _, hp, hs, _⟩ := timeoutAct_eq_add.mp e
  exact rejected_not_accepted hrej ⟨hp, hs⟩

/-- … and when the transaction is not one that a notice has ended, the bookkeeping leaves it alone altogether -/
theorem C06_rejected_skipped (cfg : Cfg) (l : Led) (h : Nat) (s : String) (i : Ibtp) (p : ProofKind) (rc : Rcpt) (f t : SvcId)
    (hf : i.frm = some f) (ht : i.to = some t)
    (hreq : i.typ.isResponse = false)
    (hrej : rc.ok = false ∨ rc.ret = "batch_ibtp" ∨ rc.txStatus = 1)
    (hopen : finalInterRecord l { frm := f, to := t, index := i.index } = none) :
    timeoutAct cfg l h (.ibtp s i p) rc = .skip := by
  cases hq : i.typ.isRequest with
  | true => exact timeoutAct_request_skip hf ht hq hopen (fun x => rejected_not_accepted hrej ⟨x.1, x.2.1⟩)
  | false => exact timeoutAct_other hf ht hq hreq

/-- a receipt asks for removal from the list of the recorded timeout height exactly when the
request no longer waits: it was accepted plainly, or it is counted as invalid ("batch_ibtp" of an
unordered source service, or rejected) and the record already has a final status.  (Before the
`fix:` commit "an accepted receipt of an unordered source service leaves the timeout list" every
"batch_ibtp" receipt was skipped and the request timed out although it had been answered.)  Whatever the receipt carries
in its Group field (`g`): before the `fix:` commit "the receipt of a one-to-one transaction leaves the timeout list even if
it carries a Group" a receipt with the field set was skipped, its request stayed listed and the timeout step later moved
the final record to BEGIN_ROLLBACK. -/
theorem C06_receipt_removes (cfg : Cfg) (l : Led) (h : Nat) (s : String) (f t : SvcId) (idx : Nat)
    (ty : IType) (p : ProofKind) (rc : Rcpt) (r : Rec) (g : Option (List (SvcId × Nat)))
    (hresp : ty.isResponse = true)
    (hnf : rc.txStatus ≠ 1) (hdst : t.chain ≠ cfg.bxh)
    (hrec : l.getS (.txRec { frm := f, to := t, index := idx }) = some (.trec r))
    (hdone : (rc.ok = true ∧ rc.ret ≠ "batch_ibtp") ∨ r.status.isFinal = true) :
    timeoutAct cfg l h (.ibtp s { frm := some f, to := some t, index := idx, typ := ty, timeout := 0, group := g } p) rc
      = .remove r.height { frm := f, to := t, index := idx } := by
  exact timeoutAct_eq_remove.mpr
    ⟨s, _, p, rfl, rfl, rfl, rfl, unbooked_eq_false.mpr ⟨hdst, .inr (.inl hresp)⟩, .inr ⟨hresp, hnf, r, hrec, hdone, rfl⟩⟩

/-- a receipt that was not accepted plainly and whose request still waits (record not final)
leaves the timeout list alone -/
theorem C06_unaccepted_receipt_keeps (cfg : Cfg) (l : Led) (h : Nat) (s : String) (f t : SvcId) (idx : Nat)
    (ty : IType) (p : ProofKind) (rc : Rcpt) (r : Rec)
    (hresp : ty.isResponse = true)
    (hrec : l.getS (.txRec { frm := f, to := t, index := idx }) = some (.trec r))
    (hinv : rc.ok = false ∨ rc.ret = "batch_ibtp") (hwait : r.status.isFinal = false) :
    timeoutAct cfg l h (.ibtp s { frm := some f, to := some t, index := idx, typ := ty, timeout := 0, group := none } p) rc
      = .skip := by
  exact timeoutAct_receipt_skip (f := f) (t := t) rfl rfl hresp hrec (Rcpt.not_plain hinv) hwait

theorem getTimeoutList_of (l : Led) (h : Nat) (x : TId) (xs : List TId)
    (hs : l.getS (.timeout h) = some (.tlist ((x :: xs).map some))) : getTimeoutList l h = x :: xs := by
  unfold getTimeoutList
  simp only [hs]
  simp

/-- **removal from a timeout list is exact** (`removeFromTimeoutList`, Go's in-place removal while ranging over the
slice): when the list holds the id at most once, the loop does not panic, the id is gone and every other entry stays,
in order.  (With the id twice in a row the real loop keeps one copy, and with copies at the end it panics — the model
`goRemoveLoop` replays the backing array and reproduces both; the hypothesis is what rules them out.) -/
theorem C06_remove_exact (l : Led) (h : Nat) (t : TxId) (lst : List (Option TId))
    (hl : l.getS (.timeout h) = some (.tlist lst)) (hne : lst ≠ [none]) (hc : lst.count (some (.single t)) ≤ 1) :
    ∃ l', tmRemoveTimeout l h (.single t) = .ok l' ∧
      l'.getS (.timeout h) = some (.tlist (normList (lst.erase (some (.single t))))) := by
  unfold tmRemoveTimeout
  simp only [hl]
  have : (lst == [none]) = false := by simpa using hne
  rw [this]
  simp only [Bool.false_eq_true, if_false, goRemove_count_le_one lst (.single t) hc]
  exact ⟨_, rfl, by rw [Led.getS_setS, if_pos rfl]⟩

/-- and every other id of the list is still listed afterwards -/
theorem C06_remove_keeps_others (lst : List (Option TId)) (x y : TId) (hc : lst.count (some x) ≤ 1) (hxy : x ≠ y) :
    ∃ r, goRemove lst x = some r ∧ (some y ∈ r ↔ some y ∈ lst) ∧ some x ∉ r := by
  refine ⟨lst.erase (some x), goRemove_count_le_one lst x hc, ?_, ?_⟩
  · exact List.mem_erase_of_ne (by intro h; exact hxy (Option.some.inj h).symm)
  · intro hm
    have h1 := List.count_erase_self (a := some x) (l := lst)
    have h2 := List.count_pos_iff.mpr hm
    omega

/-- **every chain's pier is handed exactly the timed-out ids the block lists for it**, whatever else the block holds (also a block
without a single interchain transaction) -/
theorem C06_router_hands_each_pier_its_timeouts (cfg : Cfg) (n : Node) (txs : List (Tx × Bool)) (d : String)
    (hm : Router.Keyed (execBlock cfg n txs).2.multiCounter) :
    (Router.deliver (execBlock cfg n txs).2 d).timeouts = KV.getD (execBlock cfg n txs).2.timeoutCounter d [] := by
  rw [Router.deliver_spec _ (Router.applyTxs_counter_keyed ..) (Router.getTimeoutMap_keyed ..) hm]

/-- every global id on the list has its record (otherwise the real code logs an error and stops) -/
def GlobalsPresent (l : Led) (ids : List TId) : Prop :=
  ∀ g, TId.global g ∈ ids → ∃ gi, l.getS (.glob g) = some (.glob gi)

theorem rollbackStep_glob_present (h : Nat) (acc : Led × Bool) (id : TId) (g : GId)
    (hp : ∃ gi, acc.1.getS (.glob g) = some (.glob gi)) :
    ∃ gi, (rollbackStep h acc id).1.getS (.glob g) = some (.glob gi) := by
  fun_cases rollbackStep h acc id with
  | case1 | case3 => exact hp
  | case2 _ g' =>
    by_cases he : g' = g
    · exact ⟨_, by rw [he, Led.getS_setS, if_pos rfl]⟩
    · rw [Led.getS_setS, if_neg (fun e => he (Key.glob.inj e))]; exact hp
  | case4 => rw [Led.getS_setS, if_neg nofun]; exact hp

theorem rollbackFold_spec (h : Nat) (ids : List TId) (acc : Led × Bool) (hb : acc.2 = false) (hg : GlobalsPresent acc.1 ids) :
    (ids.foldl (rollbackStep h) acc).2 = false ∧
    ∀ t, TId.single t ∈ ids ∨ acc.1.getS (.txRec t) = some (.trec { height := h, status := .beginRollback }) →
      (ids.foldl (rollbackStep h) acc).1.getS (.txRec t) = some (.trec { height := h, status := .beginRollback }) := by
  induction ids generalizing acc with
  | nil => exact ⟨hb, fun t ht => ht.elim nofun (fun x => x)⟩
  | cons id rest ih =>
    rw [List.foldl_cons]
    have hb' : (rollbackStep h acc id).2 = false := by
      fun_cases rollbackStep h acc id with
      | case1 _ hb1 => rw [hb] at hb1; cases hb1
      | case2 | case4 => rfl
      | case3 _ g hno => obtain ⟨gi, hgi⟩ := hg g List.mem_cons_self; exact (hno gi hgi).elim
    obtain ⟨i1, i2⟩ := ih _ hb' (fun g hm => rollbackStep_glob_present h acc id g (hg g (List.mem_cons_of_mem _ hm)))
    refine ⟨i1, fun t ht => i2 t ?_⟩
    -- `t` is still to come, or this step sets or keeps its record
    rw [rollbackStep_rec h acc id t]
    by_cases e : id = .single t
    · exact .inr (if_pos ⟨hb, e⟩)
    · rw [if_neg (fun x => e x.2)]
      exact ht.imp_left (fun hm => (List.mem_cons.mp hm).resolve_left (Ne.symm e))

theorem rollbackFold_no_abort (h : Nat) (ids : List TId) (acc : Led × Bool) (hb : acc.2 = false)
    (hg : GlobalsPresent acc.1 ids) : (ids.foldl (rollbackStep h) acc).2 = false :=
  (rollbackFold_spec h ids acc hb hg).1

/-- **fires at the deadline**: after the timeout step of block `h`, every one-to-one id on the list
of height `h` has status BEGIN_ROLLBACK (recorded with height `h`) -/
theorem C06_fires_at_deadline (l : Led) (h : Nat) (t : TxId)
    (hmem : TId.single t ∈ getTimeoutList l h) (hg : GlobalsPresent l (getTimeoutList l h)) :
    tmGetStatus (setTimeoutRollback l h) t = some .beginRollback := by
  unfold tmGetStatus setTimeoutRollback
  rw [(rollbackFold_spec h _ (l, false) rfl hg).2 t (.inl hmem)]

/-- **never otherwise**: an id that is not on the list of height `h` is not touched by the timeout
step of block `h` -/
theorem C06_not_listed_untouched (l : Led) (h : Nat) (t : TxId)
    (hnm : TId.single t ∉ getTimeoutList l h) :
    (setTimeoutRollback l h).getS (.txRec t) = l.getS (.txRec t) :=
  (setTimeoutRollback_rec l h t).resolve_right (fun x => hnm x.1)

/-- an empty list element at the head (the residue of an emptied list) hides the whole list:
ids appended after it are never timed out (quirk of `strings.Split("", ",")`, kept by the model) -/
theorem C06_emptied_list_quirk (l : Led) (h : Nat) (rest : List (Option TId))
    (hs : l.getS (.timeout h) = some (.tlist (none :: rest))) : getTimeoutList l h = [] := by
  simp [getTimeoutList, hs]

/-- a stored timeout list is the emptied list (`""`, read as `[none]`) or holds ids only -/
def ListWF (v : Option Val) : Prop := ∀ lst, v = some (.tlist lst) → lst = [none] ∨ ∀ x ∈ lst, x ≠ none

/-- **every request a block books for height `d` is on the list of `d` afterwards, once, behind what was there** — whatever else
the block holds, as long as it takes nothing off that list (requests of any number of pairs sharing the deadline included) -/
theorem C06_block_books_requests (cfg : Cfg) (l : Led) (h : Nat) (txs : List Tx) (rcpts : List Rcpt) (d : Nat)
    (hna : ((txs.zip rcpts).map (fun p => timeoutAct cfg l h p.1 p.2)).contains .abort = false)
    (hR : remsAt d ((txs.zip rcpts).map (fun p => timeoutAct cfg l h p.1 p.2)) = [])
    (hwf : ListWF (l.getS (.timeout d))) :
    getTimeoutList (setTimeoutList cfg l h txs rcpts) d =
      getTimeoutList l d ++ (addsAt d ((txs.zip rcpts).map (fun p => timeoutAct cfg l h p.1 p.2))).map TId.single := by
  rw [getTimeoutList_of_wf (setTimeoutList_wf cfg h txs rcpts hwf), getTimeoutList_of_wf hwf,
    setTimeoutList_at cfg l h txs rcpts d hna, curList_listAfter, hR]
  exact filterMap_bookAdds _ _

/-- **a transaction the block takes off the list of `d` is gone from it afterwards** (a receipt, or between two hubs the notice):
the block removes that id once and adds nothing for `d`, and the list held the id at most once -/
theorem C06_block_unbooks (cfg : Cfg) (l : Led) (h : Nat) (txs : List Tx) (rcpts : List Rcpt) (d : Nat) (t : TxId)
    (lst : List (Option TId))
    (hna : ((txs.zip rcpts).map (fun p => timeoutAct cfg l h p.1 p.2)).contains .abort = false)
    (hA : addsAt d ((txs.zip rcpts).map (fun p => timeoutAct cfg l h p.1 p.2)) = [])
    (hR : remsAt d ((txs.zip rcpts).map (fun p => timeoutAct cfg l h p.1 p.2)) = [t])
    (hl : l.getS (.timeout d) = some (.tlist lst)) (hc : lst.count (some (.single t)) ≤ 1) :
    (setTimeoutList cfg l h txs rcpts).getS (.timeout d) = some (.tlist (normList (lst.erase (some (.single t))))) ∧
    TId.single t ∉ getTimeoutList (setTimeoutList cfg l h txs rcpts) d := by
  constructor
  · rw [setTimeoutList_at cfg l h txs rcpts d hna, hA, hR]
    unfold listAfter
    simp [hl, curList, goRemove_count_le_one lst (.single t) hc]
  · intro hm
    exact listCount_eq_zero.mp (setTimeoutList_count_of_mem hna (by rw [hR]; exact List.mem_singleton_self t)
      (by rw [hA, listCount_of hl]; exact hc)) (listedAt_of_mem_getTimeoutList hm)

/-- **a request and its receipt in one block net out**: booked under `d` and taken off `d` by the same block, on a list that was
absent or emptied, the id is not listed afterwards (the stored list is the emptied one) -/
theorem C06_block_request_and_receipt_net_out (cfg : Cfg) (l : Led) (h : Nat) (txs : List Tx) (rcpts : List Rcpt) (d : Nat) (t : TxId)
    (hna : ((txs.zip rcpts).map (fun p => timeoutAct cfg l h p.1 p.2)).contains .abort = false)
    (hA : addsAt d ((txs.zip rcpts).map (fun p => timeoutAct cfg l h p.1 p.2)) = [t])
    (hR : remsAt d ((txs.zip rcpts).map (fun p => timeoutAct cfg l h p.1 p.2)) = [t])
    (hl : curList (l.getS (.timeout d)) = [none]) :
    getTimeoutList (setTimeoutList cfg l h txs rcpts) d = [] := by
  have hg : goRemove [some (TId.single t)] (TId.single t) = some [] := by
    rw [goRemove_count_le_one _ _ (by simp)]; simp
  unfold getTimeoutList
  rw [setTimeoutList_at cfg l h txs rcpts d hna, hA, hR]
  simp only [listAfter, hl]
  simp [curList, hg, normList]

/-- a height the block has no action for keeps its list -/
theorem C06_block_other_heights_untouched (cfg : Cfg) (l : Led) (h : Nat) (txs : List Tx) (rcpts : List Rcpt) (d : Nat)
    (hA : addsAt d ((txs.zip rcpts).map (fun p => timeoutAct cfg l h p.1 p.2)) = [])
    (hR : remsAt d ((txs.zip rcpts).map (fun p => timeoutAct cfg l h p.1 p.2)) = []) :
    (setTimeoutList cfg l h txs rcpts).getS (.timeout d) = l.getS (.timeout d) := by
  rcases setTimeoutList_abort cfg l h txs rcpts with hna | e
  · rw [setTimeoutList_at cfg l h txs rcpts d hna, hA, hR]; rfl
  · rw [e]

-- non-vacuity of the block theorems: block 7 books two requests of different pairs under the shared deadline 9 (behind the id
-- already there), block 8 takes one of them off again by its receipt, nothing else on that list moves
example :
    let s11 : SvcId := ⟨"1356", "c1", "s1"⟩
    let s21 : SvcId := ⟨"1356", "c2", "s1"⟩
    let s41 : SvcId := ⟨"1356", "c4", "s1"⟩
    let t0 : TxId := ⟨s41, s11, 5⟩
    let t1 : TxId := ⟨s11, s21, 1⟩
    let t2 : TxId := ⟨s21, s41, 3⟩
    let ok : Rcpt := { ok := true, ret := "" }
    let l : Led := { store := [(.timeout 9, .tlist [some (.single t0)])] }
    let b7 : List Tx := [.ibtp "ca1" (plainReq s11 s21 1 2) .ok, .xfer "u0" "u1" (some 1), .ibtp "ca2" (plainReq s21 s41 3 2) .ok]
    let l7 := setTimeoutList {} l 7 b7 [ok, ok, ok]
    let l7r : Led := { l7 with store := l7.store ++ [(.txRec t1, .trec { height := 9, status := .success })] }
    let b8 : List Tx := [.ibtp "ca2" { plainReq s11 s21 1 0 with typ := .receiptSuccess } .ok]
    getTimeoutList l7 9 = [.single t0, .single t1, .single t2] ∧
    getTimeoutList (setTimeoutList {} l7r 8 b8 [ok]) 9 = [.single t0, .single t2] := by decide +kernel

end Bxh.Props.C06
