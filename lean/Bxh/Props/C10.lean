import Bxh.Model.Ledger
import Bxh.Proofs.SortLemmas
import Bxh.Model.Merkle
/-!
# C10 — state, transaction and receipt roots commit to exactly what was executed
State-root part: theorems about `flush` of `Bxh.Ledger` (model of `FlushDirtyData`,
`getJournalIfModified`, `getStateJournalAndComputeHash`, `getDirtyData`).  The hash is a parameter:
sensitivity is stated as "the pre-images differ", i.e. equal roots would be a collision of `H`.
Transaction / receipt / timeout roots: theorems about `Bxh.Merkle.root` (model of `calcMerkleRoot`): the whole tree by induction over
the levels, with the duplicated last leaf.
-/
namespace Bxh.Props.C10
open Bxh Bxh.Ledger

/-- **map order cannot reach the root (accounts)**: sorting by address makes the order in which the
block's account map is iterated irrelevant, as long as an address occurs once -/
theorem C10_sortAccts_perm (l₁ l₂ : List AcctPre) (hp : l₁.Perm l₂)
    (huniq : ∀ a b, a ∈ l₁ → b ∈ l₁ → a.addr = b.addr → a = b) : sortAccts l₁ = sortAccts l₂ :=
  mergeSort_key_eq_of_perm AcctPre.addr l₁ l₂ hp huniq

/-- **map order cannot reach the root (storage keys)** -/
theorem C10_sortKeys_perm (l₁ l₂ : List (String × Bytes)) (hp : l₁.Perm l₂)
    (huniq : ∀ a b, a ∈ l₁ → b ∈ l₁ → a.1 = b.1 → a = b) : sortKeys l₁ = sortKeys l₂ :=
  mergeSort_key_eq_of_perm Prod.fst l₁ l₂ hp huniq

/-- root pre-image of one account is invariant under reordering of its dirty set -/
theorem C10_account_preimage_perm (a : Addr) (acc : Acct) (d' : KV String Bytes)
    (hp : acc.dirtyState.Perm d')
    (huniq : ∀ x y, x ∈ acc.dirtyState → y ∈ acc.dirtyState → x.1 = y.1 → x = y) :
    ({ addr := a, acct := acc.dirtyAcc, stateData := sortKeys (changedKeys acc) } : AcctPre) =
    { addr := a, acct := acc.dirtyAcc, stateData := sortKeys (changedKeys { acc with dirtyState := d' }) } := by
  congr 1
  -- the changed keys are a filter of the dirty set: permuted with it, and with no key twice either
  refine C10_sortKeys_perm _ _ (hp.filter _) (fun x y hx hy hxy => ?_)
  exact huniq x y (List.mem_filter.mp hx).1 (List.mem_filter.mp hy).1 hxy

theorem C10_root_is_hash_of_preimage (H : RootPre → String) (l : L) :
    (flush H l).2.root = H (flush H l).2.pre := rfl

theorem hash_ne_or_collision {α : Type} (h : α → String) {x y : α} (hd : x ≠ y) :
    h x ≠ h y ∨ ∃ p q : α, p ≠ q ∧ h p = h q ∧ p = x ∧ q = y :=
  if he : h x = h y then .inr ⟨x, y, hd, he, rfl, rfl⟩ else .inl he

/-- **sensitivity (collision reduction)**: the root is `H` of the pre-image; two flushes whose
pre-images differ have different roots unless `H` collides on exactly those two pre-images -/
theorem C10_sensitivity_reduction (H : RootPre → String) (l₁ l₂ : L)
    (hdiff : (flush H l₁).2.pre ≠ (flush H l₂).2.pre) :
    (flush H l₁).2.root ≠ (flush H l₂).2.root ∨
    ∃ p q : RootPre, p ≠ q ∧ H p = H q ∧ p = (flush H l₁).2.pre ∧ q = (flush H l₂).2.pre := by
  rw [C10_root_is_hash_of_preimage, C10_root_is_hash_of_preimage]
  exact hash_ne_or_collision H hdiff

/-- **the real pre-image encoding is not injective** (recorded finding
`C10/state-root-insensitive/ambiguous-key-value-concatenation`): the account state hash is computed
from `stateDataText`, the plain concatenation of keys and values.  Different sets of changed keys
have the same text — a key/value boundary can shift, and deleting the empty key adds nothing — so
the sensitivity clause of the property fails for the real `H` without any SHA-256 collision.
Both pairs are replayed on the real ledger by corpus/ledger/c10-*.ops. -/
theorem C10_concatenation_collision :
    stateDataText [("k", some "1v1")] = stateDataText [("k1", some "v1")] ∧
    ([("k", some "1v1")] : List (String × Bytes)) ≠ [("k1", some "v1")] ∧
    stateDataText [("", none)] = stateDataText [] ∧
    ([("", none)] : List (String × Bytes)) ≠ [] := by decide +kernel

/-- what does hold for the real encoding: two lists of changed keys with *different texts* give
different account hashes unless SHA-256 collides (so sensitivity holds for every perturbation that
changes the text, e.g. any change of a value's length-preserving content) -/
theorem C10_state_text_sensitivity (h : String → String) (sd₁ sd₂ : List (String × Bytes))
    (hd : stateDataText sd₁ ≠ stateDataText sd₂) :
    h (stateDataText sd₁) ≠ h (stateDataText sd₂) ∨ ∃ x y, x ≠ y ∧ h x = h y :=
  (hash_ne_or_collision h hd).imp_right fun ⟨x, y, hne, he, _⟩ => ⟨x, y, hne, he⟩

/-- the previous root is part of the pre-image: the root chain commits to the whole history -/
theorem C10_prev_root_in_preimage (H : RootPre → String) (l : L) : (flush H l).2.pre.prev = l.prevRoot := rfl

end Bxh.Props.C10

namespace Bxh.Props.C10
open Bxh.Merkle

/-- one level of the tree is injective on lists of equal length, or exhibits a collision of the
node hash `H2` -/
theorem C10_levelUp_sensitive {α : Type} (H2 : α → α → α) :
    ∀ (l₁ l₂ : List α), l₁.length = l₂.length → levelUp H2 l₁ = levelUp H2 l₂ →
      l₁ = l₂ ∨ ∃ a b c d, (a, b) ≠ (c, d) ∧ H2 a b = H2 c d
  | [], [], _, _ => Or.inl rfl
  | [a], [b], _, h => by
    simp only [levelUp, List.cons.injEq, and_true] at h
    by_cases hab : a = b
    · left; rw [hab]
    · right; exact ⟨a, a, b, b, by simp [hab], h⟩
  | a :: b :: r₁, c :: d :: r₂, hl, h => by
    simp only [levelUp, List.cons.injEq] at h
    simp only [List.length_cons, Nat.add_right_cancel_iff] at hl
    by_cases hp : (a, b) = (c, d)
    · rcases C10_levelUp_sensitive H2 r₁ r₂ hl h.2 with hr | hc
      · left
        simp only [Prod.mk.injEq] at hp
        rw [hp.1, hp.2, hr]
      · right; exact hc
    · right; exact ⟨a, b, c, d, hp, h.1⟩
  | [], _ :: _, hl, _ => by simp at hl
  | _ :: _, [], hl, _ => by simp at hl
  | [_], _ :: _ :: _, hl, _ => by simp at hl
  | _ :: _ :: _, [_], hl, _ => by simp at hl

/-- non-vacuity of the sensitivity statement: swapping two leaves changes the level above
unless `H2` collides -/
example {α : Type} (H2 : α → α → α) (a b : α) (hab : a ≠ b) (h : levelUp H2 [a, b] = levelUp H2 [b, a]) :
    ∃ x y z w, (x, y) ≠ (z, w) ∧ H2 x y = H2 z w := by
  rcases C10_levelUp_sensitive H2 [a, b] [b, a] rfl h with h1 | h2
  · simp only [List.cons.injEq] at h1; exact absurd h1.1 hab
  · exact h2

theorem levelUp_length {α : Type} (H2 : α → α → α) : ∀ l : List α, (levelUp H2 l).length = (l.length + 1) / 2
  | [] => by simp [levelUp]
  | [_] => by simp [levelUp]
  | _ :: _ :: rest => by
    have := levelUp_length H2 rest
    simp only [levelUp, List.length_cons]
    omega

theorem dupLast_eq {α : Type} : ∀ (l : List α) (h : l ≠ []), dupLast l = l ++ [l.getLast h]
  | [_], _ => rfl
  | a :: b :: r, _ => congrArg (a :: ·) (dupLast_eq (b :: r) (List.cons_ne_nil b r))

theorem dupLast_length {α : Type} (l : List α) (h : l ≠ []) : (dupLast l).length = l.length + 1 := by
  rw [dupLast_eq l h, List.length_append]; rfl

theorem root_dupLast {α : Type} (H2 : α → α → α) (l : List α) (n : Nat) (hodd : l.length = 2 * n + 1) :
    root H2 l = root H2 (dupLast l) := by
  cases l with
  | nil => cases hodd
  | cons x xs =>
    have hlen := dupLast_length (x :: xs) (List.cons_ne_nil x xs)
    cases hdl : dupLast (x :: xs) with
    | nil => rw [hdl] at hlen; cases hlen
    | cons y ys =>
      rw [hdl] at hlen
      simp only [root]
      rw [if_pos (by rw [hodd]; simp), if_neg (by rw [hlen, hodd]; simp; omega), hdl]

/-- known property of the construction (cbergoon/merkletree): a list of odd length and the same
list with its last leaf repeated have the same root, for every node hash.  Unreachable for tx,
receipt and timeout roots as long as the leaves of one block are distinct. -/
theorem C10_merkle_odd_duplication {α : Type} (H2 : α → α → α) (a b c : α) :
    root H2 [a, b, c] = root H2 [a, b, c, c] :=
  root_dupLast H2 [a, b, c] 1 rfl

theorem dupLast_injective {α : Type} {l₁ l₂ : List α} (h1 : l₁ ≠ []) (h2 : l₂ ≠ []) (h : dupLast l₁ = dupLast l₂) : l₁ = l₂ := by
  rw [dupLast_eq l₁ h1, dupLast_eq l₂ h2] at h
  exact List.append_inj_left' h rfl

theorem build_succ {α : Type} (H2 : α → α → α) (f : Nat) : ∀ l : List α,
    build H2 (f + 1) l = match levelUp H2 l with
      | [] => none
      | [x] => some x
      | up => build H2 f up
  | [] => rfl
  | [_] => rfl
  | [_, _] => rfl
  | [_, _, _] => rfl
  | _ :: _ :: _ :: _ :: _ => rfl

theorem build_sensitive {α : Type} (H2 : α → α → α) : ∀ (f : Nat) (l₁ l₂ : List α) (r : α), l₁.length = l₂.length →
    build H2 f l₁ = some r → build H2 f l₂ = some r → l₁ = l₂ ∨ ∃ a b c d, (a, b) ≠ (c, d) ∧ H2 a b = H2 c d := by
  intro f
  induction f with
  | zero => intro l₁ l₂ r _ h; cases h
  | succ f ih =>
    intro l₁ l₂ r hl h1 h2
    have hlen : (levelUp H2 l₁).length = (levelUp H2 l₂).length := by rw [levelUp_length, levelUp_length, hl]
    rw [build_succ] at h1 h2
    -- the levels above are equal (or the hash collides): both are the single node `r`, or the same tree stands on them
    suffices h : levelUp H2 l₁ = levelUp H2 l₂ ∨ ∃ a b c d, (a, b) ≠ (c, d) ∧ H2 a b = H2 c d from
      h.elim (C10_levelUp_sensitive H2 l₁ l₂ hl) Or.inr
    match levelUp H2 l₁, levelUp H2 l₂, hlen, h1, h2 with
    | [x], [y], _, h1, h2 => cases h1; cases h2; exact Or.inl rfl
    | _ :: _ :: _, _ :: _ :: _, hlen, h1, h2 => exact ih _ _ r hlen h1 h2
    | [], _, _, h1, _ => cases h1
    | [_], _ :: _ :: _, hlen, _, _ => simp at hlen
    | _ :: _ :: _, [_], hlen, _, _ => simp at hlen
    | _ :: _, [], hlen, _, _ => simp at hlen

/-- **the whole tree**: two lists of leaves of the same length — the transactions (or receipts, or timeout entries) of a block with
any one of them replaced, or two of them swapped — have the same root only if they are the same list, or the node hash `H2`
(SHA-256 of left ‖ right) collides on two different pairs that the two computations actually hashed -/
theorem C10_merkle_root_sensitive {α : Type} (H2 : α → α → α) (l₁ l₂ : List α) (r : α) (hl : l₁.length = l₂.length)
    (h1 : root H2 l₁ = some r) (h2 : root H2 l₂ = some r) :
    l₁ = l₂ ∨ ∃ a b c d, (a, b) ≠ (c, d) ∧ H2 a b = H2 c d := by
  cases l₁ with
  | nil => cases l₂ with
    | nil => exact Or.inl rfl
    | cons _ _ => simp at hl
  | cons x xs =>
    cases l₂ with
    | nil => simp at hl
    | cons y ys =>
      simp only [root] at h1 h2
      rw [← hl] at h2
      by_cases hodd : ((x :: xs).length % 2 == 1) = true
      · rw [if_pos hodd] at h1 h2
        have hdl : (dupLast (x :: xs)).length = (dupLast (y :: ys)).length := by
          rw [dupLast_length _ (List.cons_ne_nil _ _), dupLast_length _ (List.cons_ne_nil _ _), hl]
        rw [← hdl] at h2
        exact (build_sensitive H2 _ _ _ r hdl h1 h2).imp_left (dupLast_injective (List.cons_ne_nil _ _) (List.cons_ne_nil _ _))
      · rw [if_neg hodd] at h1 h2
        rw [← hl] at h2
        exact build_sensitive H2 _ _ _ r hl h1 h2

/-- the fuel of the model's recursion suffices -/
theorem build_total {α : Type} (H2 : α → α → α) : ∀ (f : Nat) (l : List α), 1 ≤ l.length → l.length ≤ f → (build H2 f l).isSome = true := by
  intro f
  induction f with
  | zero => intro l h1 h2; omega
  | succ f ih =>
    intro l h1 h2
    have hlen := levelUp_length H2 l
    rw [build_succ]
    match levelUp H2 l, hlen with
    | [], hlen => simp only [List.length_nil] at hlen; omega
    | [_], _ => rfl
    | _ :: _ :: _, hlen => exact ih _ (Nat.le_add_left 1 _) (by simp only [List.length_cons] at hlen ⊢; omega)

/-- … hence every non-empty block has a root -/
theorem C10_merkle_root_exists {α : Type} (H2 : α → α → α) (l : List α) (h : l ≠ []) : (root H2 l).isSome = true := by
  cases l with
  | nil => exact absurd rfl h
  | cons x xs =>
    simp only [root]
    apply build_total
    · split
      · rw [dupLast_length _ (List.cons_ne_nil _ _)]; exact Nat.le_add_left 1 _
      · exact Nat.le_add_left 1 _
    · omega

/-- non-vacuity: two blocks of three transactions that differ in the middle one -/
example {α : Type} (H2 : α → α → α) (a b b' c : α) (hb : b ≠ b') (r : α)
    (h1 : root H2 [a, b, c] = some r) (h2 : root H2 [a, b', c] = some r) :
    ∃ x y z w, (x, y) ≠ (z, w) ∧ H2 x y = H2 z w := by
  rcases C10_merkle_root_sensitive H2 [a, b, c] [a, b', c] r rfl h1 h2 with h | h
  · simp only [List.cons.injEq, true_and, and_true] at h; exact absurd h hb
  · exact h

end Bxh.Props.C10
