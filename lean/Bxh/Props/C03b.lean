import Bxh.Proofs.ProofGroups
import Bxh.Gen.ProofFanout
/-!
# C03 — the proof check reaches every transaction of a block, wherever it stands

`verifyProofs` cuts the block into up to `configGroup` groups that are checked concurrently, by one loop for the last group and
another for the others, and writes the verdicts into a map keyed by block position.  On the model of that fan-out
(`Bxh.ProofGroups`): for every group count `c ≥ 1` (5 = proof type "parallel", 1 = "serial"), every block length and every position,
the map holds `(k, r)` exactly when the transaction at position `k` is rejected with reason `r`.  The exec model decides each
transaction by its own verdict; this theorem is why that is what the fan-out computes, and the correspondence run (rejected and
plain-false proofs at every position of blocks of 2–11 transactions, tags `proof-in-a-full-block:*`) is what ties the model of the
fan-out to the code.
-/
namespace Bxh.Props.C03
open Bxh.ProofGroups

/-- no transaction of a block escapes the proof check and none is blamed for another one's proof: the fan-out records `(k, r)` iff
the transaction at position `k` of the block is rejected with reason `r` — whatever the block's length (fewer than five
transactions, a multiple of five, a remainder for the last group) and wherever in the block the transaction stands -/
theorem C03_every_position_is_checked {α : Type} (c : Nat) (hc : 0 < c) (check : α → Option String) (txs : List α) (k : Nat) (r : String) :
    (k, r) ∈ verifyProofs c check txs ↔ ∃ tx, txs[k]? = some tx ∧ check tx = some r := by
  unfold verifyProofs
  by_cases hn : txs.length = 0
  · rw [if_pos hn]
    simp [List.eq_nil_of_length_eq_zero hn]
  · rw [if_neg hn, List.mem_flatMap]
    obtain ⟨g1, hL⟩ := groupNum_bounds c txs.length hc hn
    constructor
    · rintro ⟨i, _, hm⟩
      exact ((mem_groupInvalid check txs _ _ k r).mp hm).2.2
    · rintro ⟨tx, hg, hr⟩
      obtain ⟨i, hi, h1, h2⟩ := groupRange_covers g1 hL (List.getElem?_eq_some_iff.mp hg).1
      exact ⟨i, List.mem_range.mpr hi, (mem_groupInvalid ..).mpr ⟨h1, h2, tx, hg, hr⟩⟩

/-- in particular a rejected transaction is recorded, whatever its position and the block's length -/
theorem C03_rejected_is_recorded {α : Type} (c : Nat) (hc : 0 < c) (check : α → Option String) (txs : List α) (k : Nat) (tx : α) (r : String)
    (hk : txs[k]? = some tx) (hr : check tx = some r) : (k, r) ∈ verifyProofs c check txs :=
  (C03_every_position_is_checked c hc check txs k r).mpr ⟨tx, hk, hr⟩

/-- non-vacuity: seven transactions in five groups (group length 1, the last group takes three), the rejected ones at positions 0, 4
and 6 — one in the first group, two in the last -/
example : verifyProofs 5 (fun (t : Nat) => if t % 2 = 0 then none else some "bad") [1, 2, 4, 6, 3, 8, 5] = [(0, "bad"), (4, "bad"), (6, "bad")] := by
  decide +kernel

/-- the model of the fan-out was written from these expressions of `verifyProofs` — group count and length, the test for the last
group, the two slices, the position `i*groupLen + j` a rejection is recorded under, and the test `!ok` that decides it, the same in
both loops; extracted from the source on every run -/
theorem C03_fanout_arithmetic_as_modelled : Bxh.Gen.proofFanout =
    ["groupNum := configGroup", "if len(txs) < configGroup", "groupNum = len(txs)", "groupLen := len(txs) / groupNum",
     "if i == groupNum-1", "range txs[i*groupLen:]", "if !ok", "append groupInvalidTx i*groupLen + j",
     "range txs[i*groupLen : (i+1)*groupLen]", "if !ok", "append groupInvalidTx i*groupLen + j", "range groupInvalidTx"] := rfl

/-- the group count of proof type "parallel" (the constant `maxGroup`, extracted on every run; the model driver fans out over it) is
positive: the theorems above apply to it -/
theorem C03_parallel_group_count_positive : 0 < Bxh.Gen.proofMaxGroup := by decide

end Bxh.Props.C03
