import Bxh.Model.ReadyLoop
import Bxh.Gen.ReadyOrder
/-!
# C20 — "identical content on every replica … across crash/restart of any replica at any point": nothing is acknowledged before it is durable

A replica that acknowledges log index k (or grants a vote) and forgets it in a crash lets two different batches be committed for one
height.  The order of the calls that handle one `Ready` is extracted from `listenRaftMsg` on every run (`Gen.readyHandler`).
-/
namespace Bxh.Props.C20
open Bxh.ReadyLoop

/-- what the other replicas were told is a subset of what this replica still knows after a crash -/
def Safe (r : Rep) : Prop := (∀ i ∈ r.sentAcks, i ∈ r.durable) ∧ (∀ t ∈ r.sentGrants, t ∈ r.votes)

/-- etcd/raft's side of the contract: the messages of a Ready acknowledge only entries that are durable already or are among the
entries of the same Ready, and grant only votes that are durable or are the vote of the same Ready's hard state -/
def Contract (rd : Ready) (r : Rep) (stored : Bool) : Prop :=
  (∀ i ∈ rd.acks, i ∈ r.durable ∨ (stored = false ∧ i ∈ rd.entries)) ∧
  (∀ t ∈ rd.grants, t ∈ r.votes ∨ (stored = false ∧ rd.vote = some t))

theorem run_safe (rd : Ready) : ∀ (steps : List Step) (r : Rep) (seen : Bool), okB seen steps = true → Safe r → Contract rd r seen →
    ∀ k, Safe (run rd (steps.take k) r) := by
  intro steps
  induction steps with
  | nil => intro r seen _ hs _ k; simpa [run] using hs
  | cons s t ih =>
    intro r seen hok hs hc k
    cases k with
    | zero => simpa [run] using hs
    | succ k =>
      cases s with
      | store =>
        -- what was stored is durable from now on: the contract holds with its first alternative
        refine ih (exec rd r .store) true hok ⟨fun i hi => List.mem_append_left _ (hs.1 i hi), fun x hx => List.mem_append_left _ (hs.2 x hx)⟩
          ⟨fun i hi => Or.inl ?_, fun x hx => Or.inl ?_⟩ k
        · rcases hc.1 i hi with h | ⟨_, h⟩
          · exact List.mem_append_left _ h
          · exact List.mem_append_right _ h
        · rcases hc.2 x hx with h | ⟨_, h⟩
          · exact List.mem_append_left _ h
          · exact List.mem_append_right _ (by rw [h]; simp)
      | send =>
        -- a send comes after the store, so what it tells the others is durable
        simp only [okB, Bool.and_eq_true] at hok
        obtain ⟨rfl, hok⟩ := hok
        refine ih (exec rd r .send) true hok ⟨fun i hi => ?_, fun x hx => ?_⟩ hc k
        · rcases List.mem_append.mp hi with h | h
          · exact hs.1 i h
          · exact (hc.1 i h).resolve_right (fun h' => nomatch h'.1)
        · rcases List.mem_append.mp hx with h | h
          · exact hs.2 x h
          · exact (hc.2 x h).resolve_right (fun h' => nomatch h'.1)
      | other => exact ih _ seen hok hs hc k

def posOf (c : String) : Option Nat := (Bxh.Gen.readyHandler.zipIdx.find? (fun p => p.1 == c)).map (·.2)

/-- everything that is read off the extracted call order, in one evaluation of the table -/
theorem readyHandler_facts :
    (okB false (Bxh.Gen.readyHandler.map classify) = true ∧
      (Bxh.Gen.readyHandler.map classify).count .store = 1 ∧ (Bxh.Gen.readyHandler.map classify).count .send = 1) ∧
    (do let s ← posOf "n.raftStorage.Store"; let p ← posOf "n.publishEntries"; pure (decide (s < p))) = some true ∧
    (do let s ← posOf "n.raftStorage.Store"; let r ← posOf "n.recoverFromSnapshot"; pure (decide (s < r))) = some true ∧
    Bxh.Gen.readyHandler.getLast? = some "n.node.Advance" := by decide +kernel

/-- the extracted order has every send behind the store (re-checked against the source on every run) -/
theorem C20_ready_handler_sends_after_store : okB false (Bxh.Gen.readyHandler.map classify) = true :=
  readyHandler_facts.1.1

/-- both calls are there (a handler without `n.send` would satisfy the order vacuously) -/
theorem C20_ready_handler_has_store_and_send :
    (Bxh.Gen.readyHandler.map classify).count .store = 1 ∧ (Bxh.Gen.readyHandler.map classify).count .send = 1 :=
  readyHandler_facts.1.2

/-- **nothing is acknowledged before it is durable, at any crash point**: for every replica state in which the others were told
nothing this replica could forget, and every Ready that keeps raft's side of the contract, a crash after any number `k` of the calls
of the Ready handler — as the source has them now — leaves a replica that still knows every log index it acknowledged and every
vote it granted -/
theorem C20_acknowledged_entries_survive_any_crash (rd : Ready) (r : Rep) (hs : Safe r) (hc : Contract rd r false) (k : Nat) :
    Safe (crashAfter rd Bxh.Gen.readyHandler r k) := by
  unfold crashAfter
  rw [List.map_take]
  exact run_safe rd _ r false C20_ready_handler_sends_after_store hs hc k

/-- the order matters: with the messages handed over first, a crash between the two calls leaves an acknowledged index the replica
does not hold (the witness a reordered handler is replayed with) -/
theorem C20_send_before_store_forgets_an_acknowledged_entry :
    ¬ Safe (crashAfter { entries := [4], acks := [4] } ["n.send", "n.raftStorage.Store"] {} 1) :=
  -- index 4 has been acknowledged and is not durable
  fun h => absurd (h.1 4 (by decide +kernel)) (by decide +kernel)

/-- non-vacuity: a replica holding indices 1–3 gets a Ready with entry 4, a vote for term 2, and messages acknowledging 4 and granting
the vote of term 2: the contract holds before the store -/
example : Safe { durable := [1, 2, 3], sentAcks := [3] } ∧
    Contract { entries := [4], vote := some 2, acks := [4], grants := [2] } { durable := [1, 2, 3], sentAcks := [3] } false :=
  ⟨⟨by decide, by decide⟩, fun _ hi => Or.inr ⟨rfl, hi⟩, fun _ ht => Or.inr ⟨rfl, List.mem_singleton.mp ht ▸ rfl⟩⟩

/-- the rest of etcd/raft's contract for the application, read off the extracted order: the committed entries are applied
(`publishEntries`) and a received snapshot is installed (`recoverFromSnapshot`) only after the Ready was made durable, and
`Advance` — which lets raft hand out the next Ready — is the last call of the handler -/
theorem C20_ready_handler_applies_after_store_and_advances_last :
    (do let s ← posOf "n.raftStorage.Store"; let p ← posOf "n.publishEntries"; pure (decide (s < p))) = some true ∧
    (do let s ← posOf "n.raftStorage.Store"; let r ← posOf "n.recoverFromSnapshot"; pure (decide (s < r))) = some true ∧
    Bxh.Gen.readyHandler.getLast? = some "n.node.Advance" :=
  readyHandler_facts.2

end Bxh.Props.C20
