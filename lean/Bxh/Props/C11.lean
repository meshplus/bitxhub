import Bxh.Model.Persist
import Bxh.Proofs.ChainCrash
/-!
# C11 — the ledger recovers to a consistent height after a crash at any persist point

On `Persist.recover` (which store is ahead after a crash): exactly the masks from which start-up succeeds.  On the state ledger: the
root start-up continues from.  On `Bxh.Chain`: a crash that start-up survives leaves the chain side of before or of after the block.
-/
namespace Bxh.Props.C11
open Bxh.Persist

/-- Full-strength clause: whatever subset/prefix of the durable writes of one block commit reached
the disk, the ledger recovers -/
def C11_always_recovers : Prop := ∀ (h : Nat) (m : Mask), 1 ≤ h → m.b ≤ 5 → recoverOK h (recover h m)

/-- **exact characterisation**: recovery works if and only if either everything of the commit
is durable, or neither the chain-index batch nor the complete blockfile append is -/
theorem C11_recover_iff (h : Nat) (m : Mask) (hh : 1 ≤ h) (hb : m.b ≤ 5) :
    recoverOK h (recover h m) ↔ Good m := by
  obtain ⟨s, c, b⟩ := m
  -- the two heights a store can be at differ
  have h1 : h - 1 < h := Nat.sub_one_lt (Nat.ne_of_gt hh)
  unfold recover recoverOK Good
  rcases Nat.lt_or_ge b 5 with hlt | hge
  · cases s <;> cases c <;> simp [hlt, h1, Nat.lt_asymm h1, Nat.ne_of_lt h1, Nat.ne_of_gt h1]
  · cases s <;> cases c <;> simp [hge, h1, Nat.lt_asymm h1, Nat.ne_of_lt h1, Nat.ne_of_gt h1]

/-- the three unrecoverable classes, each for every height -/
theorem C11_state_behind_chain_index (h : Nat) (b : Nat) (hh : 1 ≤ h) :
    recover h { s := false, c := true, b := b } = .openError :=
  if_pos (Nat.sub_one_lt (Nat.ne_of_gt hh))

theorem C11_blockfile_ahead (h : Nat) (s : Bool) (hh : 1 ≤ h) :
    recover h { s := s, c := false, b := 5 } = .opened (h - 1) (h - 1) h := by
  unfold recover; cases s <;> simp

theorem C11_chain_index_ahead (h : Nat) (b : Nat) (hb : b < 5) :
    recover h { s := true, c := true, b := b } = .opened h h (h - 1) := by
  unfold recover
  simp [Nat.not_le.mpr hb]

/-- the full clause is false of the code: counter-example (machine checked) -/
theorem C11_always_recovers_false : ¬ C11_always_recovers := by
  intro hall
  have := hall 1 { s := false, c := true, b := 5 } (Nat.le_refl 1) (Nat.le_refl 5)
  revert this
  decide

/-- **the state store continues from the head block's root**: start-up opens the state store (`NewSimpleLedger`) and rolls
it back to the chain height `c` (`ledger.New`).  Whether that rollback has something to undo or not, the root the next
block's journal hash chains from is the root recorded in the journal of height `c` — the state root of block `c`. -/
theorem C11_startup_root (l l1 l2 : Bxh.Ledger.L) (c : Nat) (hc : c ≠ 0)
    (h1 : Bxh.Ledger.reopen l = some l1) (h2 : Bxh.Ledger.rollback l1 c = .ok l2) :
    ∃ bj, Bxh.KV.get l2.db.journals c = some bj ∧ l2.prevRoot = bj.root := by
  rcases Bxh.Ledger.rollback_ok h2 with ⟨heq, rfl⟩ | h
  · -- nothing to undo: the ledger is the reopened one
    exact heq ▸ (Bxh.Ledger.reopen_ok h1).root (heq ▸ hc)
  · exact h.root hc

/-- at height 0 the state store continues from the zero root -/
theorem C11_startup_root_genesis (l l2 : Bxh.Ledger.L) (hm : l.maxJ ≠ 0) (h2 : Bxh.Ledger.rollback l 0 = .ok l2) :
    l2.prevRoot = Bxh.Ledger.zeroRoot := by
  rcases Bxh.Ledger.rollback_ok h2 with ⟨heq, _⟩ | h
  · exact absurd heq hm
  · exact h.zero rfl

/-- non-vacuity: the fully durable commit and the fully lost commit both recover -/
example : recoverOK 7 (recover 7 { s := true, c := true, b := 5 }) := by decide +kernel
example : recoverOK 7 (recover 7 { s := false, c := false, b := 0 }) := by decide +kernel

/-- **a crash from which start-up succeeds loses no block and leaves block store and index store consistent** (the chain side of the
concrete model `Bxh.Chain`, for the two classes of masks `C11_recover_iff` calls good): a linked chain (`C09`), the commit of its next
block interrupted so that either nothing of the chain side is complete (index batch missing, at most four of the five blockfile
tables appended) or all of it is durable; if `ledger.New` opens the store at all, then index, tables, block count and chain meta of
the reopened node are exactly those from before the block resp. from after it — the node is at the previous or at the new height,
every block up to that height is stored, hash-linked and found by every lookup (`Linked`), nothing of a half-appended block is left -/
theorem C11_recovered_chain_is_before_or_after (before after : Bxh.Chain.Node) (blk : Bxh.Chain.Blk) (txs : List String)
    (ctr : Bxh.KV String Nat) (m : Bxh.Chain.Mask) (n2 : Bxh.Chain.Node)
    (hL : Bxh.Chain.Linked before) (hM : Bxh.Chain.MetaOk before) (h5 : Bxh.Chain.FiveEven before)
    (hf : Bxh.Chain.FreshHash before (Bxh.Chain.mkBlk before txs ctr).hash)
    (hp : Bxh.Chain.persist before txs ctr = some (after, blk))
    (hgood : (m.c = false ∧ m.b < 5) ∨ (m.c = true ∧ m.b = 5))
    (hr : Bxh.Chain.reopen (Bxh.Chain.crashed before after m) = .ok n2) :
    Bxh.Chain.Linked n2 ∧
    ((n2.idx = before.idx ∧ n2.tbl = before.tbl ∧ n2.blocks = before.blocks ∧ n2.cmeta = before.cmeta) ∨
     (n2.idx = after.idx ∧ n2.tbl = after.tbl ∧ n2.blocks = after.blocks ∧ n2.cmeta = after.cmeta ∧
      n2.cmeta.1 = before.cmeta.1 + 1)) := by
  have hLa := Bxh.Chain.persist_linked hL hf hp
  obtain ⟨rfl, st', serial', rfl⟩ := Bxh.Chain.persist_some hp
  obtain ⟨h5a, hMa⟩ := Bxh.Chain.applyBlk_facts before (Bxh.Chain.mkBlk before txs ctr) rfl h5
  rcases hgood with ⟨hc, hb⟩ | ⟨hc, hb⟩
  · obtain ⟨g1, g2, g3, g4, g5⟩ := Bxh.Chain.reopen_crashed_before before _ _ m n2 hL hM h5 rfl hc hb hr
    exact ⟨g5, Or.inl ⟨g1, g2, g3, g4⟩⟩
  · obtain ⟨g1, g2, g3, g4, g5⟩ := Bxh.Chain.reopen_crashed_after before _ m n2 hLa hMa h5a hc hb hr
    exact ⟨g5, Or.inr ⟨g1, g2, g3, g4, by rw [g4]; rfl⟩⟩

/-- non-vacuity: the empty node meets the three hypotheses; its first block's hash is fresh -/
example : Bxh.Chain.Linked {} ∧ Bxh.Chain.MetaOk {} ∧ Bxh.Chain.FiveEven {} ∧
    Bxh.Chain.FreshHash {} (Bxh.Chain.mkBlk {} ["t1"] []).hash :=
  ⟨Bxh.Chain.Linked.init, rfl, ⟨rfl, rfl, rfl, rfl, rfl⟩, fun c hc => by cases hc⟩

/-- an empty block above height 1 is an idle block: its state part changes no storage row and flushes no account (its journal — the
durable copy of the state root the next block chains on from — is what recovery needs of it; the store engine persists such blocks and
crashes while they are being committed) -/
theorem C11_idle_block_changes_no_account (l : Bxh.Ledger.L) (h serial : Nat) (hh : 1 < h) (hno : l.accounts = []) :
    (Bxh.Chain.stateCommit l h serial []).db.state = l.db.state :=
  (Bxh.Chain.stateCommit_idle l h serial hh hno).1

end Bxh.Props.C11
