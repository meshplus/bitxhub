import Bxh.Proofs.PoolOnce
/-!
# C18 — the pool batches each account's transactions in gap-free nonce order, once
One call of `generateBlock` (model of `mempoolImpl.generateBlock`), then histories of `process` / `generate` / `commit` / `evict`:
a pointer is handed to consensus a second time only after a commit named it.
-/
namespace Bxh.Props.C18
open Bxh.Mempool

/-- the (account, nonce) pointers `generateBlock` puts into the batch, in batch order -/
def batchPointers (p : Pool) : List Ptr :=
  let limit := if p.nonBatch > p.batchSize then p.batchSize else p.nonBatch
  ((sortPrio p.priority).foldl (genStep limit) { pool := p }).result

theorem batchPointers_eq (p : Pool) : batchPointers p = (genAcc p).result := rfl

/-- **size bound**: whenever the pool believes it has ready transactions (`nonBatch > 0`, which is
the only case in which `GenerateBlock` / `ProcessTransactions` build a batch in untimed mode), a batch
never holds more than the configured batch size -/
theorem C18_batch_size_bound (p : Pool) (p' : Pool) (b : Batch) (hnb : 0 < p.nonBatch) (hbs : 0 < p.batchSize)
    (h : generateBlock p = (p', some b)) : b.txs.length ≤ p.batchSize := by
  have hlim : genLimit p ≠ 0 ∧ genLimit p ≤ p.batchSize := by
    unfold genLimit
    split
    · omega
    · omega
  obtain ⟨_, _, _, _, rfl⟩ := generateBlock_ok h
  rw [List.length_map]
  exact Nat.le_trans ((genAcc_binv p).cap hlim.1).1 hlim.2

/-- the batch handed to consensus is the image of those pointers (the transactions stored under them) -/
theorem C18_batch_is_pointer_image (p p' : Pool) (b : Batch) (h : generateBlock p = (p', some b)) :
    b.txs = (batchPointers p).map (fun ptr => KV.get p'.items ptr) := by
  obtain ⟨s, n, rfl, _, rfl⟩ := generateBlock_ok h
  rw [batchPointers_eq]

/-- **gap-free and once, for every pool state** (whatever arrived in whatever order, whatever is parked, whatever the
priority index holds — including two entries for one pointer): the pointers of one batch are pairwise distinct, none
of them was already batched and uncommitted, and each carries either the account's committed nonce or the successor
of a nonce that is batched (before this batch or earlier in it) — the batch never skips a nonce -/
theorem C18_generate_gap_free_no_repeat (p : Pool) :
    (batchPointers p).Nodup ∧
    (∀ ptr ∈ batchPointers p, ptr ∉ p.batched) ∧
    (∀ ptr ∈ batchPointers p, ptr.2 = cn p ptr.1 ∨
      (1 ≤ ptr.2 ∧ ((ptr.1, ptr.2 - 1) ∈ p.batched ∨ (ptr.1, ptr.2 - 1) ∈ batchPointers p))) := by
  have hI := genAcc_binv p
  rw [batchPointers_eq]
  exact ⟨hI.nodup, hI.fresh, fun ptr h => (hI.gapfree ptr h).imp_right fun ⟨h1, h2⟩ => ⟨h1, (hI.grown _).mp h2⟩⟩

/-- and what is batched afterwards is what was batched before plus this batch -/
theorem C18_batched_grows_by_batch (p p' : Pool) (b : Batch) (h : generateBlock p = (p', some b)) (x : Ptr) :
    x ∈ p'.batched ↔ (x ∈ p.batched ∨ x ∈ batchPointers p) := by
  have := generateBlock_batched p x
  rwa [h] at this

/-- **never below the committed nonce**: in a pool whose batched-and-uncommitted pointers all lie at or above their account's committed
nonce — a pool that has just been started (or restarted: nothing is batched, the committed nonces are re-read from the ledger), and
every pool reached from one by batch building — no pointer of the next batch carries a nonce below the committed nonce of its
account: the first one of an account carries exactly that nonce, every other one the successor of a batched one -/
theorem C18_never_below_commit_nonce (p : Pool) (hinv : ∀ x ∈ p.batched, cn p x.1 ≤ x.2) :
    ∀ ptr ∈ batchPointers p, cn p ptr.1 ≤ ptr.2 := by
  -- by induction on the nonce: a pointer carries the committed nonce, or follows a batched one that lies at or above it
  suffices key : ∀ (n : Nat) (a : String), (a, n) ∈ batchPointers p → cn p a ≤ n from fun ptr h => key ptr.2 ptr.1 h
  intro n
  induction n using Nat.strongRecOn with
  | _ n ih =>
    intro a hmem
    rcases (C18_generate_gap_free_no_repeat p).2.2 (a, n) hmem with h | ⟨h1, h2 | h2⟩
    · exact Nat.le_of_eq h.symm
    · exact Nat.le_trans (hinv (a, n - 1) h2) (Nat.sub_le n 1)
    · exact Nat.le_trans (ih (n - 1) (Nat.sub_lt h1 Nat.one_pos) a h2) (Nat.sub_le n 1)

/-- a pool that was just (re)started has nothing batched: the hypothesis holds -/
example (p : Pool) (h : p.batched = []) : ∀ x ∈ p.batched, cn p x.1 ≤ x.2 := by
  intro x hx; rw [h] at hx; cases hx

/-- … and batch building keeps the hypothesis: after a batch was generated the pool's committed nonces are the ones from before and
everything batched (old and new) lies at or above them — so the statement holds for every batch of a run of the leader between two
commit notifications, from the (re)start on -/
theorem C18_generate_keeps_batched_above_commit (p p' : Pool) (b : Batch) (h : generateBlock p = (p', some b))
    (hinv : ∀ x ∈ p.batched, cn p x.1 ≤ x.2) : ∀ x ∈ p'.batched, cn p' x.1 ≤ x.2 := by
  have hcn : ∀ a, cn p' a = cn p a := by
    obtain ⟨s, n, rfl, _⟩ := generateBlock_ok h
    exact (genAcc_binv p).cnSame
  intro x hx
  rw [hcn]
  rcases (C18_batched_grows_by_batch p p' b h x).mp hx with h1 | h1
  · exact hinv x h1
  · exact C18_never_below_commit_nonce p hinv x h1

/-- **batch sequence numbers increase by one**: a generated batch carries the previous sequence number plus one, and a
call that generates nothing leaves the number alone -/
theorem C18_seqno_steps_by_one (p : Pool) :
    (∀ p' b, generateBlock p = (p', some b) → p'.seqNo = p.seqNo + 1 ∧ b.height = p.seqNo + 1) ∧
    (∀ p', generateBlock p = (p', none) → p'.seqNo = p.seqNo) := by
  obtain ⟨c, b0, hf⟩ := (genAcc_binv p).frame
  have hs : (genAcc p).pool.seqNo = p.seqNo := by rw [hf]
  constructor
  · intro p' b h
    obtain ⟨s, n, rfl, rfl, rfl⟩ := generateBlock_ok h
    exact ⟨congrArg (· + 1) hs, congrArg (· + 1) hs⟩
  · intro p' h
    obtain ⟨s, n, rfl, _, rfl⟩ := generateBlock_ok h
    exact hs

theorem generateBlock_none (p : Pool) (h : (generateBlock p).2 = none) : batchPointers p = [] := by
  obtain ⟨_, _, _, hr, _⟩ := generateBlock_ok (Prod.ext rfl h : generateBlock p = ((generateBlock p).1, none))
  exact hr

inductive Op
  | process (txs : List TxR) (isLeader : Bool) (group : Nat)
  | generate
  | commit (hashes : List String)
  | evict (cut : Nat)

def step (p : Pool) : Op → Pool
  | .process txs l g => (process p txs l g).1
  | .generate => (generate p).1
  | .commit hs => commit p hs
  | .evict cut => (evict p cut).1

def run (p : Pool) (ops : List Op) : Pool := ops.foldl step p

/-- the (account, nonce) pointers an operation hands to consensus (`[]`: it builds no batch) -/
def emitted (p : Pool) : Op → List Ptr
  | .process txs l g =>
    if l && (processPre p txs g).nonBatch ≥ (processPre p txs g).batchSize && !(processPre p txs g).timed
    then batchPointers (processPre p txs g) else []
  | .generate => if !p.timed && p.nonBatch == 0 then [] else batchPointers p
  | _ => []

/-- `generate` and `process` answer, and hand out, what `generateBlock` does on a pool with `p`'s batched set — or leave that pool
alone and hand out nothing: what holds of both holds of them -/
theorem builds_or_idles (p : Pool) (P : Pool × Option Batch → List Ptr → Prop)
    (h : ∀ q : Pool, q.batched = p.batched → P (generateBlock q) (batchPointers q) ∧ P (q, none) []) :
    P (generate p) (emitted p .generate) ∧ ∀ txs l g, P (process p txs l g) (emitted p (.process txs l g)) := by
  refine ⟨?_, fun txs l g => ?_⟩
  · simp only [generate, emitted]
    by_cases hc : (!p.timed && p.nonBatch == 0) = true
    · rw [if_pos hc, if_pos hc]; exact (h p rfl).2
    · rw [if_neg hc, if_neg hc]; exact (h p rfl).1
  · rw [process_eq]
    simp only [emitted]
    by_cases hc : (l && (processPre p txs g).nonBatch ≥ (processPre p txs g).batchSize && !(processPre p txs g).timed) = true
    · rw [if_pos hc, if_pos hc]; exact (h _ (processPre_batched p txs g)).1
    · rw [if_neg hc, if_neg hc]; exact (h _ (processPre_batched p txs g)).2

theorem emitted_is_the_batch (p : Pool) :
    (∀ b, (generate p).2 = some b → b.txs = (emitted p .generate).map (fun ptr => KV.get (generate p).1.items ptr)) ∧
    (∀ txs l g b, (process p txs l g).2 = some b →
      b.txs = (emitted p (.process txs l g)).map (fun ptr => KV.get (process p txs l g).1.items ptr)) :=
  builds_or_idles p (fun r e => ∀ b, r.2 = some b → b.txs = e.map (fun ptr => KV.get r.1.items ptr))
    fun q _ => ⟨fun b hb => C18_batch_is_pointer_image q _ b (Prod.ext rfl hb), fun _ hb => nomatch hb⟩

theorem step_batched (p : Pool) (op : Op) (x : Ptr) :
    (x ∈ emitted p op → x ∉ p.batched ∧ x ∈ (step p op).batched) ∧
    (x ∈ p.batched → x ∈ (step p op).batched ∨ ∃ hs, op = .commit hs ∧ ∃ h ∈ hs, KV.get p.hashMap h = some x) := by
  have build := builds_or_idles p (fun r e => (x ∈ e → x ∉ p.batched ∧ x ∈ r.1.batched) ∧ (x ∈ p.batched → x ∈ r.1.batched))
    fun q hq => hq ▸
      ⟨⟨fun hx => ⟨(C18_generate_gap_free_no_repeat q).2.1 x hx, (generateBlock_batched q x).mpr (Or.inr hx)⟩,
        fun hx => (generateBlock_batched q x).mpr (Or.inl hx)⟩, fun hx => (nomatch hx), id⟩
  cases op with
  | process txs l g => exact (build.2 txs l g).imp_right fun h hx => Or.inl (h hx)
  | generate => exact build.1.imp_right fun h hx => Or.inl (h hx)
  | commit hs =>
    refine ⟨fun hx => (nomatch hx), fun hx => ?_⟩
    by_cases hk : x ∈ (commit p hs).batched
    · exact Or.inl hk
    · exact Or.inr ⟨hs, rfl, (commit_batched p hs x).2 hx hk⟩
  | evict cut =>
    refine ⟨fun hx => (nomatch hx), fun hx => Or.inl ?_⟩
    rwa [← evict_batched p cut] at hx

/-- **never the same (account, nonce) twice before it is committed — over any history** of admissions, batch generations,
commit notifications (whatever they name, in whatever order) and evictions, from any pool state: if a pointer is in the
batched set and a later operation of the history hands it to consensus again, then in between a commit notification named a
hash the pool held for exactly that pointer -/
theorem C18_history_rebatch_only_after_commit (pre : List Op) (p : Pool) (op : Op) (x : Ptr)
    (hx : x ∈ p.batched) (he : x ∈ emitted (run p pre) op) :
    ∃ pre1 hs post1, pre = pre1 ++ Op.commit hs :: post1 ∧ ∃ h ∈ hs, KV.get (run p pre1).hashMap h = some x := by
  rcases foldl_keeps_or_breaks (f := step) (Keep := fun q => x ∈ q.batched)
      (Why := fun q o => ∃ hs, o = .commit hs ∧ ∃ h ∈ hs, KV.get q.hashMap h = some x)
      (fun q o => (step_batched q o x).2) pre hx with hk | ⟨pre1, o, post1, e, hs, rfl, hw⟩
  · exact absurd hk ((step_batched _ op x).1 he).1
  · exact ⟨pre1, hs, post1, e, hw⟩

/-- the same for two batches of one history: between two operations that hand the same pointer to consensus lies a commit
notification naming it -/
theorem C18_history_no_double_batch (pre mid : List Op) (p : Pool) (op1 op2 : Op) (x : Ptr)
    (h1 : x ∈ emitted (run p pre) op1) (h2 : x ∈ emitted (run p (pre ++ op1 :: mid)) op2) :
    ∃ m1 hs m2, mid = m1 ++ Op.commit hs :: m2 ∧ ∃ h ∈ hs, KV.get (run p (pre ++ op1 :: m1)).hashMap h = some x := by
  have hb : x ∈ (step (run p pre) op1).batched := ((step_batched (run p pre) op1 x).1 h1).2
  have e : ∀ l, run p (pre ++ op1 :: l) = run (step (run p pre) op1) l := by
    intro l; simp [run]
  rw [e] at h2
  obtain ⟨m1, hs, m2, em, h, hh, hg⟩ := C18_history_rebatch_only_after_commit mid _ op2 x hb h2
  exact ⟨m1, hs, m2, em, h, hh, by rw [e]; exact hg⟩

-- the exception is real and the premises are met: nonce 0 is batched, committed by its hash, offered again under another
-- hash (a pool that lags behind: committed nonce still 0), and batched a second time
example :
    let t0 : TxR := { acct := "a", nonce := 0, hash := "h0", ts := 1 }
    let p : Pool := { nonBatch := 1, items := [(("a", 0), t0)], hashMap := [("h0", ("a", 0))], nidx := [("a", 0)], priority := [(1, "a", 0)] }
    emitted p .generate = [("a", 0)] ∧ ("a", 0) ∈ (step p .generate).batched ∧
    ("a", 0) ∉ (run p [.generate, .commit ["h0"]]).batched := by decide +kernel

/-- non-vacuity: nonces 0,1,2 of one account ready (committed nonce 0), nonce 1 listed twice in the priority index
(a superseded transaction), nonce 4 parked: the batch is 0,1,2 -/
example :
    let p : Pool := { nonBatch := 3, items := [(("a", 0), ⟨"a", 0, "h0", 7⟩), (("a", 1), ⟨"a", 1, "h1", 9⟩), (("a", 2), ⟨"a", 2, "h2", 1⟩)] }
    -- the priority index in iteration order (time, account, nonce)
    ([(1, "a", 2), (5, "a", 1), (7, "a", 0), (9, "a", 1)].foldl (genStep 3) { pool := p }).result = [("a", 0), ("a", 1), ("a", 2)] := by decide +kernel

end Bxh.Props.C18
