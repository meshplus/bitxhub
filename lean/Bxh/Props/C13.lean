import Bxh.Proofs.LedgerFlush
/-!
# C13 — reads return the latest write through dirty set, cache, database and reopen
Theorems about `Bxh.Ledger` (model of SimpleLedger / SimpleAccount / AccountCache).
-/
namespace Bxh.Props.C13
open Bxh Bxh.Ledger

/-- **read-your-write** (journaled write or delete): whatever the dirty set, origin memo, cache and
database hold, a read after `SetState a k v` returns `v` (and `none` after a delete) -/
theorem C13_read_after_set (l : L) (a : Addr) (k : String) (v : Bytes) :
    (getState (setState l a k v) a k).2 = v := by
  rw [getState_peek, peekState_setState, if_pos ⟨rfl, rfl⟩]

/-- the same for `AddState` -/
theorem C13_read_after_add (l : L) (a : Addr) (k : String) (v : Bytes) :
    (getState (addState l a k v) a k).2 = v := C13_read_after_set l a k v

/-- a write to one key does not change what a read of another key of the same account returns from
the dirty set -/
theorem C13_set_other_key_dirty (l : L) (a : Addr) (k k' : String) (v w : Bytes) (hne : k ≠ k') :
    (getState (setState (setState l a k' w) a k v) a k').2 = w := by
  rw [getState_peek, peekState_setState, if_neg (fun h => hne h.2.symm), peekState_setState, if_pos ⟨rfl, rfl⟩]

/-- **existence flag**: after a write, the key exists iff the written value is non-empty — the same answer
`present` gives for the value read back from the database after the caches are gone, so the flag cannot depend on
where the value is served from (repaired by the `fix:` commit "a storage key with an empty value does not exist") -/
theorem C13_exists_iff_nonempty (v : Bytes) : present v = true ↔ ∃ s, v = some s ∧ s ≠ "" := by
  cases v with
  | none => simp [present]
  | some s => simp [present]

theorem C13_empty_write_is_absent : present (some "") = false ∧ present none = false := by decide

/-- **through the account cache**: after `FlushDirtyData` dropped the block's account objects, a key the block wrote in a
modified account reads back as the value written last — before any `Commit`, whatever the database holds -/
theorem C13_read_after_flush (H : RootPre → String) (l : L) (a : Addr) (acc : Acct) (k : String) (v : Bytes)
    (hnd : (l.accounts.map (·.1)).Nodup) (hmem : (a, acc) ∈ l.accounts)
    (hd : (journalOf l a acc).1.isSome = true)
    (hk : ∃ p ∈ acc.dirtyState, p.1 = k) (hv : ∀ p ∈ acc.dirtyState, p.1 = k → p.2 = v) :
    (getState (flush H l).1 a k).2 = v := by
  have hitem := flushItems_mem_of l a acc hmem hd
  rw [getState_peek, peekState_no_objects _ rfl, below_eq, flush_cache, cacheFold_look _ _ (flushItems_nodup hnd) hitem,
    loadOrigin_dirtyState, KV.last_eq_some hk hv]
  rfl

/-- **through the database and a reopen**: after `Commit` and `NewSimpleLedger` on the same database (no caches left) the
same read returns the same bytes; when the write did not change the stored bytes nothing was written and the stored bytes are read -/
theorem C13_read_after_commit_reopen (H : RootPre → String) (l l1 l2 : L) (h : Nat) (a : Addr) (acc : Acct) (k : String) (v : Bytes)
    (hnd : (l.accounts.map (·.1)).Nodup) (hmem : (a, acc) ∈ l.accounts)
    (hd : (journalOf l a acc).1.isSome = true)
    (hk : ∃ p ∈ acc.dirtyState, p.1 = k) (hv : ∀ p ∈ acc.dirtyState, p.1 = k → p.2 = v)
    (horigin : ((KV.get acc.originState k).getD none).getD "" = (KV.get l.db.state (a, k)).getD "")
    (hc : commit (flush H l).1 h (flush H l).2 = some l1) (hr : reopen l1 = some l2) :
    ((getState l2 a k).2).getD "" = v.getD "" := by
  have r := reopen_ok hr
  have hitem := flushItems_mem_of l a acc hmem hd
  obtain ⟨hds, hos⟩ := loadOrigin_states l a acc
  rw [getState_peek, peekState_no_objects l2 r.accounts, below_eq, r.cache, r.db, (commit_state_cache hc).1]
  show ((KV.get (commits (flushItems l) l.db).state (a, k) : Bytes)).getD "" = _
  rw [commits_state_at _ _ (flushItems_nodup hnd) hitem, last_changedKeys _ k v (by rw [hds]; exact hk) (by rw [hds]; exact hv), hos]
  split
  · rfl
  · -- not changed: nothing was written, and origin and written value are the same bytes
    rename_i hch
    show (KV.get l.db.state (a, k)).getD "" = _
    rw [← horigin]
    unfold chg beq at hch
    simpa using hch

-- non-vacuity: account 1 of the example ledger of C12 (it deletes `k` and writes `k2`) meets the hypotheses for both keys
section Example
def exI15 : Inner := { nonce := 1, balance := 5 }
def exI27 : Inner := { nonce := 2, balance := 7 }
def exBj3 : BlockJournal := { entries := [], root := "r3" }
def exDb : DB := { acct := [(1, exI15)], state := [((1, "k"), "v")], journals := [(3, exBj3)], minH := 3, maxH := 3 }
def exAcc1 : Acct := { originAcc := some exI15, dirtyAcc := some exI27, originState := [("k", some "v"), ("k2", none)], dirtyState := [("k", none), ("k2", some "w")] }
def exL : L := { accounts := [(1, exAcc1)], db := exDb, minJ := 3, maxJ := 3, prevRoot := "r3" }
def exH : RootPre → String := fun _ => "r4"

example : (exL.accounts.map (·.1)).Nodup ∧ (1, exAcc1) ∈ exL.accounts ∧ (journalOf exL 1 exAcc1).1.isSome = true ∧
    (∃ p ∈ exAcc1.dirtyState, p.1 = "k2") ∧ (∀ p ∈ exAcc1.dirtyState, p.1 = "k2" → p.2 = some "w") ∧
    (getState (flush exH exL).1 1 "k2").2 = some "w" ∧ (getState (flush exH exL).1 1 "k").2 = none := by
  refine ⟨by decide +kernel, by decide +kernel, by decide +kernel, ⟨("k2", some "w"), by decide +kernel, rfl⟩, by decide +kernel, by decide +kernel, by decide +kernel⟩
end Example

end Bxh.Props.C13
