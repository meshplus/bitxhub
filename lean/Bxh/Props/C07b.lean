import Bxh.Proofs.LedgerViews
import Bxh.Gen.FailedEvents
/-!
# C07 — "Read-only (view) execution never changes ledger state or chain metadata at all"

`ApplyReadonlyTransactions` runs each transaction through `applyTransaction` on the view ledger and then calls `Clear()`; it never
flushes or commits.  On the model of the state ledger: whatever journaled writes the transaction made (storage writes and deletes,
balance, nonce; accounts loaded, loadable or created by the write), after `Clear` the ledger differs from the one before the
transaction in nothing a later reader, a later flush or a later commit can see.
-/
namespace Bxh.Props.C07
open Bxh Bxh.Ledger

/-- **view execution leaves nothing behind**: start from a ledger without account objects (the view ledger between two calls), make
any sequence of journaled writes, `Clear`: database, account cache, the root the next block is chained to, the journal window and
the pending block journals are the ones from before; there are no account objects; every storage key, balance and nonce of every
account reads what it read before; a flush right afterwards has nothing to write and computes the root it would have computed
before -/
theorem C07_view_execution_changes_nothing (H : RootPre → String) (l : L) (hno : l.accounts = []) (ws : List Write) :
    (clear (applyWrites ws l)).db = l.db ∧ (clear (applyWrites ws l)).cache = l.cache ∧
    (clear (applyWrites ws l)).prevRoot = l.prevRoot ∧ (clear (applyWrites ws l)).minJ = l.minJ ∧
    (clear (applyWrites ws l)).maxJ = l.maxJ ∧ (clear (applyWrites ws l)).blockJournals = l.blockJournals ∧
    (clear (applyWrites ws l)).accounts = [] ∧
    (∀ a k, (getState (clear (applyWrites ws l)) a k).2 = (getState l a k).2) ∧
    (∀ a, (getBalance (clear (applyWrites ws l)) a).2 = (getBalance l a).2 ∧ (getNonce (clear (applyWrites ws l)) a).2 = (getNonce l a).2) ∧
    (flush H (clear (applyWrites ws l))).2.root = (flush H l).2.root ∧ (flush H (clear (applyWrites ws l))).2.accounts = [] := by
  have hf := applyWrites_frame ws l
  have hc : (clear (applyWrites ws l)).cache = l.cache := hf.cache
  have hd : (clear (applyWrites ws l)).db = l.db := hf.db
  have ha : (clear (applyWrites ws l)).accounts = [] := rfl
  refine ⟨hd, hc, hf.prevRoot, hf.minJ, hf.maxJ, hf.bj, ha, ?_, ?_, ?_, ?_⟩
  · intro a k
    rw [getState_peek, getState_peek, peekState_no_objects _ ha, peekState_no_objects _ hno]
    exact below_congr hc hd a k
  · intro a
    rw [getBalance_peek, getBalance_peek, getNonce_peek, getNonce_peek,
      peekInner_congr hc hd a (by rw [ha, hno])]
    exact ⟨rfl, rfl⟩
  · have hp : (clear (applyWrites ws l)).prevRoot = l.prevRoot := hf.prevRoot
    unfold flush
    simp only [ha, hno, hp, List.map_nil]
  · rfl

/-- non-vacuity: a view ledger over a database with one account, a "transaction" that writes storage, balance and nonce of that
account and of a new one -/
example :
    let l : L := { db := { acct := [(1, { nonce := 3, balance := 10 })], state := [((1, "k"), "v")] } }
    l.accounts = [] ∧ (getState (applyWrites [.storage 1 "k" (some "w"), .balance 1 0, .nonce 2 9] l) 1 "k").2 = some "w" ∧
      (getState (clear (applyWrites [.storage 1 "k" (some "w"), .balance 1 0, .nonce 2 9] l)) 1 "k").2 = some "v" := by
  refine ⟨rfl, ?_, ?_⟩ <;> decide +kernel

/-- **what a FAILED transaction posted is void, whatever made it fail**: the condition under which `applyTx` drops the events of a
transaction — extracted from the source on every run — is the bare test of the receipt status, with no exception for particular
errors; it is the condition the model's `applyTx` uses (`C07_failed_tx_not_listed`: a FAILED receipt carries no event, is never
listed for delivery, does not reach the service cache, the node feed or the audit feed) -/
theorem C07_events_void_iff_failed : Bxh.Gen.failedEventsCond = "receipt.Status == pb.Receipt_FAILED" := rfl

end Bxh.Props.C07
