import Bxh.Props.C04
import Bxh.Proofs.ExecGlob
import Bxh.Proofs.ExecBlock
import Bxh.Proofs.RouterLemmas
import Bxh.Proofs.TxFsmTable
/-!
# C05 — one-to-many cross-chain transactions are all-or-nothing

Theorems about the transaction manager's group functions of `Bxh.Exec` (`tmBeginMulti` =
`BeginMultiTXs`, `tmChangeMulti` = `changeMultiTxStatus`, `tmReport` = `Report`), for every ledger,
group and child.  The FSM table is the one regenerated from transaction_manager.go.
-/
namespace Bxh.Props.C05
open Bxh.Exec Bxh.Props.C04

theorem edge_dead : ∀ p ∈ protocolEdges, p.1.dead = true → p.2.dead = true := by decide

theorem globStep_edge {g g' : Global} {id : TxId} {typ : Nat} (s : GlobStep g id typ g') :
    g'.state = g.state ∨ (g.state, g'.state) ∈ protocolEdges := by
  cases s with
  | flip hb => right; rw [hb]; show (Status.begin, Status.beginFailure) ∈ _; decide
  | child _ h => exact .inl h
  | finish _ _ _ hgs => right; exact C04_step_is_protocol_edge _ _ _ hgs

/-- **SUCCESS needs every declared child**: whenever `changeMultiTxStatus` moves the global state to
SUCCESS, every child recorded in the group is SUCCESS and their number is the declared count -/
theorem C05_global_success_needs_all (l l' : Led) (gid : GId) (g g' : Global) (id : TxId) (typ : Nat)
    (h : tmChangeMulti l gid g id typ = .ok (l', g')) (hs : g'.state = .success) (hns : g.state ≠ .success) :
    g'.children.all (fun p => p.2 == .success) = true ∧ g'.children.length = g'.count := by
  obtain ⟨st, _⟩ := tmChangeMulti_ok h
  cases st with
  | flip => cases hs
  | child _ h => exact absurd (h ▸ hs) hns
  | finish _ hst hfin hgs =>
    -- the group's own step reached SUCCESS: its event is the event "success", and every step by that one ends in SUCCESS, so the
    -- children are all in SUCCESS
    subst hs
    obtain ⟨e, he, h1, _, h3⟩ := fsmStep_entry hgs
    rw [← h1, txFsm_success_event e he h3] at hst
    cases txFsmStep_success hst
    unfold isMultiFinished at hfin
    rwa [Bool.and_eq_true, beq_iff_eq] at hfin

/-- **a failed group never succeeds**: once the global state is neither BEGIN nor SUCCESS
(BEGIN_FAILURE, BEGIN_ROLLBACK, FAILURE, ROLLBACK) no report can make it SUCCESS -/
theorem C05_failed_group_never_succeeds (l l' : Led) (gid : GId) (g g' : Global) (id : TxId) (typ : Nat)
    (h : tmChangeMulti l gid g id typ = .ok (l', g')) (hb : g.state ≠ .begin) (hs : g.state ≠ .success) :
    g'.state ≠ .success := by
  obtain ⟨st, _⟩ := tmChangeMulti_ok h
  intro h'
  rcases globStep_edge st with e | e
  · exact hs (e ▸ h')
  · have := edge_dead _ e (by simp [Status.dead, hb, hs])
    rw [h'] at this; cases this

/-- **a failure receipt fails the whole group at once**: in state BEGIN a failure receipt of any
child sets the global state to BEGIN_FAILURE, the reporting child to FAILURE and *every* other
child — including those that had succeeded — to BEGIN_FAILURE -/
theorem C05_failure_receipt_flips_all (l l' : Led) (gid : GId) (g g' : Global) (id : TxId)
    (h : tmChangeMulti l gid g id 2 = .ok (l', g')) (hb : g.state = .begin) :
    g'.state = .beginFailure ∧
    ∀ p ∈ g'.children, (p.1 = id → p.2 = .failure) ∧ (p.1 ≠ id → p.2 = .beginFailure) := by
  obtain ⟨st, _⟩ := tmChangeMulti_ok h
  cases st with
  | flip =>
    refine ⟨rfl, fun p hp => ?_⟩
    obtain ⟨q, _, rfl⟩ := List.mem_map.mp hp
    by_cases hq : q.1 = id <;> simp [hq]
  | child hc => exact absurd ⟨hb, rfl⟩ hc
  | finish hc => exact absurd ⟨hb, rfl⟩ hc

theorem mem_putChild {m : KV TxId Status} {k : TxId} {v : Status} {p : TxId × Status} (hp : p ∈ putChild m k v) :
    p ∈ m ∨ p = (k, v) := by
  unfold putChild at hp
  split at hp
  · obtain ⟨q, hq, rfl⟩ := List.mem_map.mp hp
    split
    · exact .inr rfl
    · exact .inl hq
  · rcases List.mem_append.mp hp with h | h
    · exact .inl h
    · exact .inr (List.mem_singleton.mp h)

/-- **a child that cannot begin fails the whole group at once** (`BeginMultiTXs` with an
unavailable destination while the group is in BEGIN): global BEGIN_FAILURE, every child
BEGIN_FAILURE, the source is told about every earlier child and the destinations about exactly
those earlier children that had succeeded -/
theorem C05_begin_failure_flips_all (l : Led) (cur : Nat) (gid : GId) (g : Global) (id : TxId) (t n : Nat)
    (r : Led × StatusChange) (hg : l.getS (.glob gid) = some (.glob g)) (hb : g.state = .begin)
    (h : tmBeginMulti l cur gid id t true n = .ok r) :
    r.2.cur = .beginFailure ∧
    r.2.notifySrc = g.children.map (·.1) ∧
    r.2.notifyDst = (g.children.filter (fun p => p.2 == .success)).map (·.1) ∧
    (match r.1.getS (.glob gid) with
      | some (.glob g') => g'.state = .beginFailure ∧ ∀ p ∈ g'.children, p.2 = .beginFailure
      | _ => False) := by
  obtain ⟨g', hg', st⟩ := tmBeginMulti_own h
  rw [hg']
  cases st g hg with
  | late hnb => exact absurd hb hnb
  | join _ hf => cases hf
  | fail _ h1 h2 h3 =>
    refine ⟨h1, h2, h3, rfl, fun p hp => ?_⟩
    rcases mem_putChild hp with hp | rfl
    · obtain ⟨q, _, rfl⟩ := List.mem_map.mp hp; rfl
    · rfl

/-- **who is told when a failure receipt fails the group** (`Report`): the source chain is told to
roll back every other child, and the destinations exactly those other children that had
SUCCEEDED before this receipt (since the `fix:` commit "tell destination chains to roll back
children that had succeeded ...": the statuses as they were, not as overwritten) -/
theorem C05_report_failure_notifies (l : Led) (id : TxId) (gid : GId) (g : Global) (r : Led × StatusChange)
    (hrec : l.getS (.txRec id) = none) (hch : l.getS (.child id) = some (.gid gid))
    (hg : l.getS (.glob gid) = some (.glob g)) (hb : g.state = .begin)
    (h : tmReport l id 2 = .ok r) :
    r.2.prev = some .begin ∧ r.2.cur = .beginFailure ∧
    r.2.notifyDst = ((g.children.filter (fun p => p.1 ≠ id)).filter (fun p => p.2 == .success)).map (·.1) ∧
    r.2.notifySrc = ((g.children.map (fun p => (p.1, if p.1 = id then Status.failure else Status.beginFailure))).filter (fun p => p.1 ≠ id)).map (·.1) := by
  obtain ⟨l', c⟩ := r
  rcases tmReport_ok h with ⟨rec, _, hr, _⟩ | ⟨gid', g0, g', l1, _, hch', hg', hcm, _, rfl⟩
  · rw [hrec] at hr; cases hr
  · rw [hch] at hch'; cases hch'
    rw [hg] at hg'; cases hg'
    obtain ⟨st, _⟩ := tmChangeMulti_ok hcm
    cases st with
    | flip => simp [reportChange, hb]
    | child hc => exact absurd ⟨hb, rfl⟩ hc
    | finish hc => exact absurd ⟨hb, rfl⟩ hc

/-- non-vacuity: a group of two with one succeeded child; the other child's failure receipt -/
example :
    let a : TxId := ⟨⟨"1356", "c1", "s1"⟩, ⟨"1356", "c2", "s1"⟩, 1⟩
    let b : TxId := ⟨⟨"1356", "c1", "s1"⟩, ⟨"1356", "c4", "s1"⟩, 1⟩
    let gid : GId := ⟨⟨"1356", "c1", "s1"⟩, []⟩
    let g : Global := { state := .begin, height := 9, children := [(a, .success), (b, .begin)], count := 2 }
    (match tmChangeMulti {} gid g b 2 with
      | .ok (_, g') => g'.state == .beginFailure && g'.children == [(a, .beginFailure), (b, .failure)]
      | .error _ => false) = true := by decide +kernel


/-- `BeginMultiTXs` keeps the state of an existing group or fails it from BEGIN, `Report` makes one `changeMultiTxStatus`, nothing
else writes the record (the group analogue of `handleIBTP_rec`) -/
theorem handleIBTP_globState {env : Env} {l : Led} {i : Ibtp} {r : Led × String}
    (h : handleIBTP env l i = .ok r) (gid : GId) (st : Status) (hst : globState l gid = some st) :
    ∃ st', globState r.1 gid = some st' ∧ (st' = st ∨ (st, st') ∈ protocolEdges) := by
  obtain ⟨g, hg, rfl⟩ := globState_some hst
  obtain ⟨ck, l1, c, _, hstage, p, hp, _, hl⟩ := handleIBTP_ok h
  -- what follows the transaction manager writes no group record
  suffices H : ∃ g', l1.getS (.glob gid) = some (.glob g') ∧ (g'.state = g.state ∨ (g.state, g'.state) ∈ protocolEdges) by
    obtain ⟨g', hg', hm⟩ := H
    exact ⟨g'.state, globState_of ((handleIBTP_after hp hl).getS.trans hg'), hm⟩
  have same : l1.getS (.glob gid) = l.getS (.glob gid) → ∃ g', l1.getS (.glob gid) = some (.glob g') ∧
      (g'.state = g.state ∨ (g.state, g'.state) ∈ protocolEdges) := fun e => ⟨g, e.trans hg, .inl rfl⟩
  rcases hstage with ⟨_, hbeg⟩ | ⟨_, _, hrep⟩
  · rcases beginTransaction_ok hbeg with ⟨_, h0⟩ | ⟨_, _, rfl, _⟩ | ⟨_, grp, _, h0⟩
    · exact same (tmBeginInter_writes h0).getS
    · exact same (tmBegin_writes ..).getS
    · by_cases hgid : gid = globalId ck.src grp
      · subst hgid
        obtain ⟨g', hg', sb⟩ := tmBeginMulti_own h0
        refine ⟨g', hg', ?_⟩
        cases sb g hg with
        | late => exact .inl rfl
        | fail hb => right; rw [hb]; show (Status.begin, Status.beginFailure) ∈ _; decide
        | join => exact .inl rfl
      · exact same (tmBeginMulti_other h0 hgid)
  · rcases tmReport_ok hrep with ⟨_, _, _, _, rfl, _⟩ | ⟨gid', g0, g', l2, _, _, hg0, hcm, rfl, _⟩
    · exact same (by rw [Led.getS_setS, if_neg nofun])
    · by_cases hgid : gid' = gid
      · subst hgid
        rw [hg] at hg0; cases hg0
        exact ⟨g', by rw [Led.getS_setS, if_pos rfl], globStep_edge (tmChangeMulti_ok hcm).1⟩
      · exact same (by rw [Led.getS_setS, if_neg (fun e => hgid (Key.glob.inj e))]; exact (tmChangeMulti_writes hcm).getS)

theorem handleIBTP_glob_dead {env : Env} {l : Led} {i : Ibtp} {r : Led × String} {gid : GId}
    (h : handleIBTP env l i = .ok r) (d : DeadGroup gid l) : DeadGroup gid r.1 := by
  obtain ⟨st, hst, hd⟩ := d
  obtain ⟨st', h1, h2⟩ := handleIBTP_globState h gid st hst
  exact ⟨st', h1, by rcases h2 with rfl | e; exact hd; exact edge_dead _ e hd⟩

open Bxh.Props.C02 in
/-- **a failed or timed-out group never succeeds, over any history of IBTPs**: once the global state of a
one-to-many transaction is neither BEGIN nor SUCCESS, no sequence of requests and receipts (late children of the
group, success receipts of children, traffic of other groups and pairs, valid or not) makes it BEGIN or SUCCESS again -/
theorem C05_history_failed_group_stays_failed (env : Env) (gid : GId) (is : List Ibtp) (l : Led) (st : Status)
    (hst : globState l gid = some st) (hd : st.dead = true) :
    ∃ st', globState (runIbtps env l is) gid = some st' ∧ st'.dead = true :=
  runIbtps_inv env (DeadGroup gid) (fun _ _ _ d h => handleIBTP_glob_dead h d) is l ⟨st, hst, hd⟩

theorem applyTx_glob_dead (env : Env) (l : Led) (tx : Tx) (inv : Option String) {gid : GId} (d : DeadGroup gid l) :
    DeadGroup gid (applyTx env l tx inv).1 := by
  cases applyTx_effect env l tx inv with
  | nothing hget => exact d.congr (hget _)
  | ibtp s i p env' r _ _ _ hrun hget => exact (handleIBTP_glob_dead hrun d).congr (hget _)
  | bvm s c m args r _ hrun hget => exact d.congr ((hget _).trans (applyBvm_writes hrun).getS)

/-- the timeout step moves listed groups to BEGIN_ROLLBACK, which is dead, and touches no other group -/
theorem setTimeoutRollback_glob_dead {l : Led} (h : Nat) {gid : GId} (d : DeadGroup gid l) : DeadGroup gid (setTimeoutRollback l h) := by
  refine foldl_inv (P := fun acc : Led × Bool => DeadGroup gid acc.1) (fun acc id d => ?_) _ d
  fun_cases rollbackStep h acc id with
  | case1 | case3 => exact d
  | case2 _ g gi =>
    by_cases hg : g = gid
    · subst hg; exact ⟨.beginRollback, by unfold globState; rw [Led.getS_setS, if_pos rfl], rfl⟩
    · exact d.congr (by rw [Led.getS_setS, if_neg (fun e => hg (Key.glob.inj e))])
  | case4 => exact d.congr (by rw [Led.getS_setS, if_neg nofun])

theorem execBlock_glob_dead (cfg : Cfg) (n : Node) (txs : List (Tx × Bool)) {gid : GId} (d : DeadGroup gid n.led) :
    DeadGroup gid (execBlock cfg n txs).1.led := by
  have h1 := applyTxs_inv cfg n.cache (n.height + 1) (fun _ => True) (DeadGroup gid)
    (fun env l tx inv _ _ _ _ d => applyTx_glob_dead env l tx inv d) n.led d txs (fun _ _ => trivial)
  -- the timeout lists are other keys
  rw [execBlock_led, blockEnd]
  exact (setTimeoutRollback_glob_dead _ (h1.congr (setTimeoutList_getS ..))).congr (finalise_getS ..)

/-- **a failed or timed-out group never succeeds, over any history of blocks**: whatever the blocks contain (IBTPs, transfers,
contract calls, valid or not, fees paid or not) and whatever times out in between -/
theorem C05_block_history_failed_group_stays_failed (cfg : Cfg) (blocks : List (List (Tx × Bool))) (n : Node) (gid : GId) (st : Status)
    (hst : globState n.led gid = some st) (hd : st.dead = true) :
    ∃ st', globState (runBlocks cfg n blocks).led gid = some st' ∧ st'.dead = true :=
  runBlocks_inv_mem cfg (fun m => DeadGroup gid m.led) (fun _ => True)
    (fun m b d _ => execBlock_glob_dead cfg m b d) blocks n ⟨st, hst, hd⟩ (fun _ _ => trivial)

/-- non-vacuity: a group whose second child could not begin is dead (BEGIN_FAILURE), and the success receipt of its
first child does not revive it -/
example :
    let svc : Svc := { ordered := true, blacklist := [], available := true }
    let l : Led := { store := [(.svc "c1" "s1", .svc svc), (.svc "c2" "s1", .svc svc)] }
    let env : Env := { cfg := {}, cache := [], height := 7, txIndex := 0 }
    let s11 : SvcId := { bxh := "1356", chain := "c1", sid := "s1" }
    let s21 : SvcId := { bxh := "1356", chain := "c2", sid := "s1" }
    let s29 : SvcId := { bxh := "1356", chain := "c2", sid := "s9" }        -- no such service: begin-failure
    let grp := [(s21, 1), (s29, 1)]
    let m (t : SvcId) (ty : IType) : Ibtp := { frm := some s11, to := some t, index := 1, typ := ty, timeout := 0, group := some grp }
    let gid := globalId s11 grp
    globState (Bxh.Props.C02.runIbtps env l [m s21 .interchain, m s29 .interchain]) gid = some .beginFailure ∧
    (globState (Bxh.Props.C02.runIbtps env l [m s21 .interchain, m s29 .interchain, { m s21 .receiptSuccess with group := none }]) gid).map Status.dead = some true := by
  decide +kernel

/-- every chain's pier is handed exactly the one-to-many notifications the block lists for it -/
theorem C05_router_hands_each_pier_its_notifications (cfg : Cfg) (n : Node) (txs : List (Tx × Bool)) (d : String)
    (hm : Router.Keyed (execBlock cfg n txs).2.multiCounter) :
    (Router.deliver (execBlock cfg n txs).2 d).multi = KV.getD (execBlock cfg n txs).2.multiCounter d [] := by
  rw [Router.deliver_spec _ (Router.applyTxs_counter_keyed ..) (Router.getTimeoutMap_keyed ..) hm]

end Bxh.Props.C05
