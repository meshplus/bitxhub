import Bxh.Gen.IbtpContextHeight
/-!
# C04 / C06 — the record's deadline and the executor's timeout list name the same block

`Begin` records a request's deadline as (the height its contract context carries) + timeout; `setTimeoutList` books the request
under (the height of the block being executed) + timeout.  A receipt takes the id off the list its RECORD names, so the two must be
the same height — the model's `execBlock` gives both the height of the block being executed.  The height the executor creates the
context of an IBTP transaction with is extracted from `applyBxhTransaction` on every run.
-/
namespace Bxh.Props.C04

/-- the contract context of an IBTP transaction carries the height of the block being executed (`currentHeight` is the height of the
last executed block) -/
theorem C04_ibtp_context_carries_the_block_height : Bxh.Gen.ibtpContextHeight = "exec.currentHeight+1" := rfl

end Bxh.Props.C04
