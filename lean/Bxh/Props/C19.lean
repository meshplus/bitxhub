import Bxh.Proofs.PoolHeld
import Bxh.Proofs.PoolReady
/-!
# C19 — the pool neither loses accepted transactions nor misreports its content
The age rule, `getTx`, `hasPending`; no silent loss of a held hash, per operation and over histories; the transaction cache in
front of the pool (`txCacheRun`); readiness and the pending nonce.  Models of `RemoveAliveTimeoutTxs`, `ProcessTransactions`,
`processCommitTransactions`, `GetTransaction`, `HasPendingRequest`, `TxCache`.
-/
namespace Bxh.Props.C19
open Bxh.Mempool

/-- **documented age rule**: eviction only ever removes a transaction that is held, old enough,
NOT batched, NOT ready (not in the priority index) and parked -/
theorem C19_evict_only_old_nonready_nonbatched (p : Pool) (cut : Nat) (tx : TxR) (h : tx ∈ victims p cut) :
    ∃ ptr g, KV.get p.items ptr = some tx ∧ (ptr, g) ∈ p.arrival ∧ g ≤ cut ∧
      ptr ∉ p.batched ∧ (tx.ts, tx.acct, tx.nonce) ∉ p.priority ∧ ptr ∈ p.parking :=
  (mem_victims p cut tx).mp h

/-- the number reported by `RemoveAliveTimeoutTxs` is the number of victims -/
theorem C19_evict_count (p : Pool) (cut : Nat) : (evict p cut).2 = (victims p cut).length := by
  rfl

theorem evict_nothing_old (p : Pool) (cut : Nat) (h : ∀ e ∈ p.arrival, cut < e.2) : victims p cut = [] ∧ evict p cut = (p, 0) := by
  have hv : victims p cut = [] := List.eq_nil_iff_forall_not_mem.mpr fun tx htx => by
    obtain ⟨ptr, g, _, ha, hg, _⟩ := (mem_victims p cut tx).mp htx
    exact absurd hg (Nat.not_le_of_lt (h _ ha))
  rw [evict_eq, hv]
  exact ⟨rfl, rfl⟩

/-- **nothing is older than a tolerance nothing can reach**: when every held transaction arrived after the cut (in the engine: the
largest duration, "never", or a tolerance of centuries — `evict cut=0 tol=max|250y`; arrival groups count from 1), the age rule has no
victim, reports 0 and leaves the pool exactly as it was -/
theorem C19_unreachable_tolerance_evicts_nothing (p : Pool) (cut : Nat) (h : ∀ e ∈ p.arrival, cut < e.2) :
    victims p cut = [] ∧ (evict p cut).2 = 0 ∧ (evict p cut).1.hashMap = p.hashMap ∧ (evict p cut).1.items = p.items := by
  obtain ⟨hv, e⟩ := evict_nothing_old p cut h
  rw [e]
  exact ⟨hv, rfl, rfl, rfl⟩

/-- `GetTransaction` never invents content: what it returns is the item stored under the pointer
recorded for that hash -/
theorem C19_getTx_from_items (p : Pool) (h : String) (tx : TxR) (hg : getTx p h = some tx) :
    ∃ ptr, KV.get p.hashMap h = some ptr ∧ KV.get p.items ptr = some tx := by
  unfold getTx at hg
  split at hg
  · cases hg
  · rename_i ptr hp
    exact ⟨ptr, hp, hg⟩

/-- `HasPendingRequest` is exactly "the ready-and-unbatched counter is positive" -/
theorem C19_pending_flag_is_counter (p : Pool) : hasPending p = true ↔ 0 < p.nonBatch := by
  simp [hasPending]

/-! ## No silent loss, one operation at a time

`hashMap` is what `GetTransaction` looks a hash up in.  For every operation of the pool, a hash that is held
before the operation is held under the same pointer after it, unless the operation is one of the three
documented reasons — and then exactly for the transactions that reason names. -/

/-- building batches (leader, timer or size trigger) forgets nothing and alters no held transaction -/
theorem C19_generate_forgets_nothing (p : Pool) :
    (generate p).1.hashMap = p.hashMap ∧ (generate p).1.items = p.items := by
  unfold generate
  split
  · exact ⟨rfl, rfl⟩
  · exact generateBlock_hashMap p

/-- `ProcessTransactions` — whatever the batch, leader or follower: a held hash is forgotten only if the batch
carries a different transaction for the very (account, nonce) the holder occupies (supersession) -/
theorem C19_process_forgets_only_superseded (p : Pool) (txs : List TxR) (isLeader : Bool) (group : Nat)
    (h : String) (ptr : Ptr) (hh : KV.get p.hashMap h = some ptr) :
    KV.get (process p txs isLeader group).1.hashMap h = some ptr ∨
      ∃ tx ∈ txs, ∃ old, KV.get p.items (tx.acct, tx.nonce) = some old ∧ old.hash = h ∧ tx.hash ≠ h := by
  obtain ⟨⟨c, a1⟩, a3, a4⟩ := admission_facts p txs
  have hfin : (process p txs isLeader group).1.hashMap = (processPre p txs group).hashMap := by
    rw [process_eq]
    split
    · exact (generateBlock_hashMap _).1
    · rfl
  have hpre : (processPre p txs group).hashMap = (insertTxs (admission p txs).1 (admission p txs).2 group).hashMap :=
    (SameHeld.foldl processDirty_held _ _).1
  rw [hfin, hpre, a1]
  rcases insertTxs_hashMap { p with commitN := c } (admission p txs).2 group h ptr hh
    (fun v hv => (a3 v hv).2) a4 with hi | ⟨tx, htx, old, ho, hoh, hne⟩
  · exact Or.inl hi
  · exact Or.inr ⟨tx, (a3 tx htx).1, old, ho, hoh, hne⟩

/-- a commit forgets only the hashes it names -/
theorem C19_commit_forgets_only_committed (p : Pool) (hashes : List String) (h : String) (ptr : Ptr)
    (hh : KV.get p.hashMap h = some ptr) :
    KV.get (commit p hashes).hashMap h = some ptr ∨ h ∈ hashes := by
  rw [commit_hashMap_eq, KV.get_foldl_erase]
  by_cases hin : h ∈ hashes
  · exact Or.inr hin
  · rw [if_neg hin]; exact Or.inl hh

/-- the age rule forgets only hashes of transactions held under a parked, not batched pointer -/
theorem C19_evict_forgets_only_parked (p : Pool) (cut : Nat) (h : String) (ptr : Ptr)
    (hh : KV.get p.hashMap h = some ptr) :
    KV.get (evict p cut).1.hashMap h = some ptr ∨
      ∃ pt tx, KV.get p.items pt = some tx ∧ tx.hash = h ∧ pt ∈ p.parking ∧ pt ∉ p.batched := by
  rw [evict_eq, (evictFold_held _ _).1, ← List.foldl_map (g := KV.erase), KV.get_foldl_erase]
  split
  · rename_i hin
    obtain ⟨tx, htx, e⟩ := List.mem_map.mp hin
    obtain ⟨pt, g, hi, _, _, hnb, _, hpk⟩ := C19_evict_only_old_nonready_nonbatched p cut tx htx
    exact Or.inr ⟨pt, tx, hi, e, hpk, hnb⟩
  · exact Or.inl hh

/-- the admission loop lets through only offered transactions whose hash is not held, no two for one (account, nonce) -/
theorem C19_admission_sound (p : Pool) (txs : List TxR) :
    (∀ v ∈ (admission p txs).2, v ∈ txs ∧ KV.get p.hashMap v.hash = none) ∧
    (admission p txs).2.Pairwise (fun a b => (a.acct, a.nonce) ≠ (b.acct, b.nonce)) :=
  (admission_facts p txs).2

/-- the step of `txCacheRun`: (sets posted, set being gathered) -/
def cacheStep {α : Type} (size : Nat) (acc : List (List α) × List α) : Option α → List (List α) × List α
  | none => acc
  | some tx => if (acc.2 ++ [tx]).length ≥ size then (acc.1 ++ [acc.2 ++ [tx]], []) else (acc.1, acc.2 ++ [tx])

theorem txCacheRun_eq {α : Type} (size : Nat) (arrivals : List (Option α)) :
    txCacheRun size arrivals =
      if (arrivals.foldl (cacheStep size) ([], [])).2.isEmpty then (arrivals.foldl (cacheStep size) ([], [])).1
      else (arrivals.foldl (cacheStep size) ([], [])).1 ++ [(arrivals.foldl (cacheStep size) ([], [])).2] := rfl

theorem cacheFold {α : Type} (size : Nat) (hs : 0 < size) (arr : List (Option α)) (acc : List (List α) × List α)
    (h1 : acc.2.length < size) (h2 : ∀ st ∈ acc.1, st.length = size) :
    let r := arr.foldl (cacheStep size) acc
    r.1.flatten ++ r.2 = acc.1.flatten ++ acc.2 ++ arr.filterMap id ∧ r.2.length < size ∧ ∀ st ∈ r.1, st.length = size := by
  induction arr generalizing acc with
  | nil => exact ⟨by simp, h1, h2⟩
  | cons a rest ih =>
    cases a with
    | none => exact ih acc h1 h2
    | some tx =>
      rw [List.foldl_cons, cacheStep]
      by_cases hge : (acc.2 ++ [tx]).length ≥ size
      · rw [if_pos hge]
        have hlen : (acc.2 ++ [tx]).length = size := by
          rw [List.length_append, List.length_singleton] at hge ⊢; omega
        obtain ⟨e, r⟩ := ih (acc.1 ++ [acc.2 ++ [tx]], []) hs (fun st hst => by
          rcases List.mem_append.mp hst with h | h
          · exact h2 st h
          · rw [List.mem_singleton.mp h, hlen])
        exact ⟨by rw [e]; simp, r⟩
      · rw [if_neg hge]
        obtain ⟨e, r⟩ := ih (acc.1, acc.2 ++ [tx]) (Nat.lt_of_not_ge hge) h2
        exact ⟨by rw [e]; simp, r⟩

/-- **the transaction cache loses nothing and keeps the order**: whatever arrives (nil transactions aside, which are dropped with
an error), the sets `TxCache` posts are, concatenated, exactly the arrivals in arrival order; every set but the last holds exactly
`size` transactions, the last (posted by the tick) at least one and fewer than `size` -/
theorem C19_txcache_loses_nothing {α : Type} (size : Nat) (hs : 0 < size) (arrivals : List (Option α)) :
    (txCacheRun size arrivals).flatten = arrivals.filterMap id ∧
    (∀ st ∈ txCacheRun size arrivals, 1 ≤ st.length ∧ st.length ≤ size) := by
  obtain ⟨hf, i1, i2⟩ := cacheFold size hs arrivals ([], []) hs (fun _ h => nomatch h)
  rw [txCacheRun_eq]
  generalize arrivals.foldl (cacheStep size) ([], []) = r at hf i1 i2
  simp only [List.flatten_nil, List.nil_append] at hf
  have full : ∀ st ∈ r.1, 1 ≤ st.length ∧ st.length ≤ size := fun st h => by rw [i2 st h]; exact ⟨hs, Nat.le_refl _⟩
  split
  · rename_i he
    rw [List.isEmpty_iff.mp he, List.append_nil] at hf
    exact ⟨hf, full⟩
  · rename_i hne
    refine ⟨by rw [← hf]; simp, fun st hset => ?_⟩
    rcases List.mem_append.mp hset with h | h
    · exact full st h
    · rw [List.mem_singleton.mp h]
      exact ⟨List.length_pos_iff.mpr (fun e => hne (List.isEmpty_iff.mpr e)), Nat.le_of_lt i1⟩

example : txCacheRun 3 [some 1, some 2, none, some 3, some 4] = [[1, 2, 3], [4]] := by decide +kernel

inductive Op
  | process (txs : List TxR) (isLeader : Bool) (group : Nat)
  | generate
  | commit (hashes : List String)
  | evict (cut : Nat)

def step (p : Pool) : Op → Pool
  | .process txs l g => (process p txs l g).1
  | .generate => (generate p).1
  | .commit hs => commit p hs
  | .evict cut => (evict p cut).1

def run (p : Pool) (ops : List Op) : Pool := ops.foldl step p

/-- the documented reasons for which operation `op`, applied to pool `q`, may forget the hash `h` -/
def Reason (q : Pool) (h : String) : Op → Prop
  | .process txs _ _ => ∃ tx ∈ txs, ∃ old, KV.get q.items (tx.acct, tx.nonce) = some old ∧ old.hash = h ∧ tx.hash ≠ h   -- superseded
  | .generate => False
  | .commit hs => h ∈ hs                                                                                              -- committed
  | .evict _ => ∃ pt tx, KV.get q.items pt = some tx ∧ tx.hash = h ∧ pt ∈ q.parking ∧ pt ∉ q.batched                  -- age rule

theorem step_keeps_or_reason (p : Pool) (op : Op) (h : String) (ptr : Ptr) (hh : KV.get p.hashMap h = some ptr) :
    KV.get (step p op).hashMap h = some ptr ∨ Reason p h op := by
  cases op with
  | process txs l g => exact C19_process_forgets_only_superseded p txs l g h ptr hh
  | generate => exact Or.inl (((C19_generate_forgets_nothing p).1 ▸ hh : KV.get (generate p).1.hashMap h = some ptr))
  | commit hs => exact C19_commit_forgets_only_committed p hs h ptr hh
  | evict cut => exact C19_evict_forgets_only_parked p cut h ptr hh

/-- **no silent loss over any history** of admissions, batch generations, commits and evictions, from any pool state: a
hash that is held stays held (under the same pointer) to the end of the history, unless at some point of the history one
of the three documented reasons applied to it — it was committed, superseded, or evicted by the age rule while parked -/
theorem C19_history_no_silent_loss (ops : List Op) (p : Pool) (h : String) (ptr : Ptr)
    (hh : KV.get p.hashMap h = some ptr) :
    KV.get (run p ops).hashMap h = some ptr ∨
      ∃ pre op post, ops = pre ++ op :: post ∧ Reason (run p pre) h op :=
  foldl_keeps_or_breaks (f := step) (Keep := fun q => KV.get q.hashMap h = some ptr) (Why := fun q op => Reason q h op)
    (fun q op hq => step_keeps_or_reason q op h ptr hq) ops hh

-- premises are satisfiable and the exception is real: inserting a second transaction for (a, 0) forgets the first hash,
-- inserting one for (a, 1) does not
example :
    let t1 : TxR := { acct := "a", nonce := 0, hash := "h1", ts := 1 }
    let p : Pool := { items := [(("a", 0), t1)], hashMap := [("h1", ("a", 0))] }
    KV.get p.hashMap "h1" = some ("a", 0) ∧
    KV.get (insertTxs p [{ acct := "a", nonce := 0, hash := "h9", ts := 2 }] 1).hashMap "h1" = none ∧
    KV.get (insertTxs p [{ acct := "a", nonce := 1, hash := "h9", ts := 2 }] 1).hashMap "h1" = some ("a", 0) := by decide +kernel

/-- **once all lower nonces of its account are present a transaction is ready, and no transaction behind a gap is**: what
`processDirtyAccount` moves to the ready (priority) index for an account is the run `pending, pending+1, …` of nonces held in the
account's index, as long as it goes — every nonce of the run is held, the first nonce behind the run is not -/
theorem C19_ready_is_maximal_gap_free_run (p : Pool) (a : String) (demand : Nat) (hnd : (noncesOf p a).Nodup) :
    (filterReady p a demand).1 = List.range' demand (filterReady p a demand).1.length ∧
    (∀ n ∈ (filterReady p a demand).1, n ∈ noncesOf p a) ∧
    (filterReady p a demand).2.2 ∉ noncesOf p a := by
  obtain ⟨h1, _, h3, h4⟩ := filterReady_spec p a demand
  exact ⟨h1, h3, h4⟩

/-- **the pending nonce reported for an account is exactly the nonce after its last ready transaction**: after
`processDirtyAccount` the stored pending nonce is the old one plus the length of the ready run, and no transaction with that nonce
is held -/
theorem C19_pending_nonce_is_behind_the_ready_run (p : Pool) (a : String) (hnd : (noncesOf (getPending p a).1 a).Nodup) :
    KV.get (processDirty p a).pendingN a =
      some ((getPending p a).2 + (filterReady (getPending p a).1 a (getPending p a).2).1.length) ∧
    (getPending p a).2 + (filterReady (getPending p a).1 a (getPending p a).2).1.length ∉ noncesOf (getPending p a).1 a := by
  obtain ⟨_, h2, _, h4⟩ := filterReady_spec (getPending p a).1 a (getPending p a).2
  refine ⟨?_, by rw [← h2]; exact h4⟩
  unfold processDirty
  simp only [KV.get_set, if_true]
  rw [h2]

/-- the hypothesis of the two theorems above is met by every pool whose nonce index is a set (the index is only ever changed by
set insertion and filtering: `insertTxs_nidx_nodup`, `setDel_nodup`) -/
theorem C19_ready_run_of_set_index (p : Pool) (a : String) (h : p.nidx.Nodup) :
    (filterReady (getPending p a).1 a (getPending p a).2).1 =
      List.range' (getPending p a).2 (filterReady (getPending p a).1 a (getPending p a).2).1.length ∧
    KV.get (processDirty p a).pendingN a =
      some ((getPending p a).2 + (filterReady (getPending p a).1 a (getPending p a).2).1.length) ∧
    (getPending p a).2 + (filterReady (getPending p a).1 a (getPending p a).2).1.length ∉ noncesOf p a := by
  have hnd : (noncesOf (getPending p a).1 a).Nodup := noncesOf_nodup _ a (by rw [getPending_nidx]; exact h)
  obtain ⟨h1, _, _⟩ := C19_ready_is_maximal_gap_free_run (getPending p a).1 a (getPending p a).2 hnd
  obtain ⟨h2, h3⟩ := C19_pending_nonce_is_behind_the_ready_run p a hnd
  refine ⟨h1, h2, ?_⟩
  rw [← noncesOf_congr (getPending_nidx p a) a]
  exact h3

/-- non-vacuity (on the fold `filterReady` runs over the account's sorted nonces): the account holds the nonces 3, 4, 6 (5 is
missing) and nonce 3 is demanded: ready are 3 and 4, the next demanded nonce is 5, 6 is not ready -/
example : [3, 4, 6].foldl frStep ([], [], 3) = ([3, 4], [6], 5) := by decide +kernel

end Bxh.Props.C19
