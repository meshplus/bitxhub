import Bxh.Proofs.ExecRec
import Bxh.Proofs.ExecListed
import Bxh.Props.C02
import Bxh.Proofs.TxFsmTable
/-!
# C04 — cross-chain transaction status follows the protocol state machine

`Gen.txFsm` is regenerated from `transaction_manager.go` on every run; the table theorems are proved of whatever was extracted.  Over
histories of IBTPs the notion is a *known* transaction, one the pair's counter has passed: an IBTP leaves its record alone, or names it
and moves it (`Moves`: one step, deadline kept), so the status follows `Reach` and a final one stays.  Over blocks a transaction is
`Tracked` (fresh, opened or final, with what the timeout lists still to come hold of it); a block is its transactions — one loop per
invariant — and then its end (`Ends`).
-/
namespace Bxh.Props.C04
open Bxh Bxh.Exec Bxh.Props.C02

/-- the protocol's edges, from the property statement (plus BEGIN → BEGIN_FAILURE, which the
one-to-many path uses, and BEGIN → ROLLBACK / FAILURE by the destination hub's notice) -/
def protocolEdges : List (Status × Status) := [
  (.begin, .success), (.begin, .failure), (.begin, .beginRollback), (.begin, .beginFailure), (.begin, .rollback),
  (.beginFailure, .failure), (.beginRollback, .rollback)]

def finals : List String := ["SUCCESS", "FAILURE", "ROLLBACK"]

/-- table fact (whole extracted table, by `decide`): no transition leaves a final status -/
theorem C04_table_no_exit_from_final :
    ∀ e ∈ Gen.txFsm, ∀ s ∈ e.2.1, s ∉ finals := by decide +kernel

def edgeOk (s d : String) : Bool :=
  match Status.ofName s, Status.ofName d with
  | some a, some b => decide ((a, b) ∈ protocolEdges)
  | _, _ => true

/-- table fact: every transition between protocol statuses is a protocol edge -/
theorem C04_table_edges_are_protocol :
    ∀ e ∈ Gen.txFsm, ∀ s ∈ e.2.1, edgeOk s e.2.2 = true := by decide +kernel

theorem name_final (st : Status) (h : st.isFinal = true) : st.name ∈ finals := by
  cases st <;> simp_all [Status.isFinal, Status.name, finals]

/-- SUCCESS, FAILURE and ROLLBACK are absorbing for every event whatsoever -/
theorem C04_final_absorbing_step (st : Status) (ev : String) (h : st.isFinal = true) :
    txFsmStep st ev = none := by
  cases hs : txFsmStep st ev with
  | none => rfl
  | some st' =>
    obtain ⟨e, he, _, hs, _⟩ := fsmStep_entry hs
    exact absurd (name_final st h) (C04_table_no_exit_from_final e he _ hs)

/-- every status change the FSM can make is an edge of the protocol -/
theorem C04_step_is_protocol_edge (st st' : Status) (ev : String) (h : txFsmStep st ev = some st') :
    (st, st') ∈ protocolEdges := by
  obtain ⟨e, he, _, hs, hd⟩ := fsmStep_entry h
  have := C04_table_edges_are_protocol e he _ hs
  simp only [edgeOk, hd, Status.ofName_name, decide_eq_true_eq] at this
  exact this

/-- `Report` on a one-to-one record: an accepted receipt moves the status along the FSM and
changes nothing else of the record; a receipt that needs another transition is an error (and an
error result carries no ledger at all, i.e. has no effect) -/
theorem C04_report_moves_along_fsm (l l' : Led) (id : TxId) (typ : Nat) (c : StatusChange) (r : Rec)
    (hrec : l.getS (.txRec id) = some (.trec r)) (h : tmReport l id typ = .ok (l', c)) :
    ∃ st', txFsmStep r.status (receiptEvent typ) = some st' ∧
      l'.getS (.txRec id) = some (.trec { r with status := st' }) ∧
      c.prev = some r.status ∧ c.cur = st' ∧ (r.status, st') ∈ protocolEdges := by
  rcases tmReport_ok h with ⟨rec, st', hr, hs, rfl, rfl⟩ | ⟨_, _, _, _, hnone, _⟩
  · cases hrec.symm.trans hr
    exact ⟨st', hs, by rw [Led.getS_setS, if_pos rfl], rfl, rfl, C04_step_is_protocol_edge _ _ _ hs⟩
  · rw [hrec] at hnone; cases hnone

theorem C04_report_refused_when_final (l : Led) (id : TxId) (typ : Nat) (r : Rec)
    (hrec : l.getS (.txRec id) = some (.trec r)) (hf : r.status.isFinal = true) :
    tmReport l id typ = .error "2080000" := by
  unfold tmReport
  simp only [hrec, C04_final_absorbing_step r.status _ hf]

/-- status query = the status stored by the last accepted event -/
theorem C04_status_query_exact (l : Led) (id : TxId) (r : Rec)
    (hrec : l.getS (.txRec id) = some (.trec r)) : tmGetStatus l id = some r.status := by
  simp [tmGetStatus, hrec]

/-- non-vacuity: the table does move BEGIN on a success receipt -/
example : txFsmStep .begin (receiptEvent 1) = some .success := txFsmStep_begin_success_receipt

/-- protocol path: the reflexive-transitive closure of the steps of the (regenerated) state machine -/
inductive Reach : Status → Status → Prop
  | refl (s : Status) : Reach s s
  | step {a b c : Status} (ev : String) : Reach a b → txFsmStep b ev = some c → Reach a c

theorem Reach.of_final {a b : Status} (h : Reach a b) (hf : a.isFinal = true) : b = a := by
  induction h with
  | refl => rfl
  | step ev _ hs ih =>
    subst ih
    rw [C04_final_absorbing_step _ ev hf] at hs
    cases hs

theorem Reach.edges {a b : Status} (h : Reach a b) : a = b ∨ ∃ m, Reach a m ∧ (m, b) ∈ protocolEdges := by
  cases h with
  | refl => exact Or.inl rfl
  | step ev h1 hs => exact Or.inr ⟨_, h1, C04_step_is_protocol_edge _ _ _ hs⟩

/-- a request that names a transaction the pair's counter has passed cannot be a fresh request (its index would have to be the
counter's successor): it is checked as the destination hub's notice -/
theorem checkIBTP_known_request_notice {env : Env} {l : Led} {i : Ibtp} {ck : Checked} (hck : checkIBTP env l i = .ok ck)
    (hd : OrderedDst env l ck.dst) (hb : i.index ≤ reqCounter l ck.src ck.dst) (hreq : i.typ.isRequest = true) : ck.notice = true := by
  refine Bool.of_not_eq_false fun hn => ?_
  have hidx := orderedDst_next_index hd hck hreq hn
  exact Nat.not_succ_le_self _ (hidx ▸ hb)

theorem moves_not_final {i : Ibtp} {rec : Rec} {v : Option Val} (h : Moves i rec v) : rec.status.isFinal = false := by
  obtain ⟨st', ev, hs, -⟩ := h.step
  exact Bool.eq_false_iff.mpr fun hf => by rw [C04_final_absorbing_step _ _ hf] at hs; cases hs

theorem moves_of_response {i : Ibtp} {rec : Rec} {v : Option Val} (h : Moves i rec v) (hresp : i.typ.isResponse = true) :
    ∃ st', st'.isFinal = true ∧ v = some (.trec { rec with status := st' }) := by
  obtain ⟨st', hv, ⟨hreq, -⟩ | ⟨-, hs⟩⟩ := h
  · rw [IType.isRequest_of_isResponse hresp] at hreq; cases hreq
  · exact ⟨st', txFsmStep_receipt_final hresp hs, hv⟩

/-- a handled IBTP naming a known `t`: as a request it is the destination hub's notice, hence between two hubs; where `t` has a record
it moves it — so it is not handled on a final record -/
theorem handleIBTP_known_named {env : Env} {l : Led} {i : Ibtp} {r : Led × String} {t : TxId} (h : handleIBTP env l i = .ok r)
    (hd : OrderedDst env l t.to) (hb : t.index ≤ reqCounter l t.frm t.to)
    (hfr : i.frm = some t.frm) (hto : i.to = some t.to) (hix : i.index = t.index) :
    (i.typ.isRequest = true → t.frm.bxh ≠ t.to.bxh) ∧
    ∀ rec, l.getS (.txRec t) = some (.trec rec) → Moves i rec (r.1.getS (.txRec t)) := by
  obtain ⟨ck, hck⟩ := handleIBTP_ok_checked h
  obtain ⟨e1, e2⟩ := checkIBTP_ends hck
  obtain ⟨f, d, ix⟩ := t
  cases e1.symm.trans hfr
  cases e2.symm.trans hto
  cases hix
  have hne : i.typ.isRequest = true → ck.src.bxh ≠ ck.dst.bxh := fun hreq =>
    (checkIBTP_notice_true hck (checkIBTP_known_request_notice hck hd hb hreq)).1
  exact ⟨hne, fun rec hrec => handleIBTP_moves hck h hrec hne⟩

theorem handleIBTP_known {env : Env} {l : Led} {i : Ibtp} {r : Led × String} {t : TxId} (h : handleIBTP env l i = .ok r)
    (hd : OrderedDst env l t.to) (hb : t.index ≤ reqCounter l t.frm t.to) :
    OrderedDst env r.1 t.to ∧ t.index ≤ reqCounter r.1 t.frm t.to ∧
    (r.1.getS (.txRec t) = l.getS (.txRec t) ∨
     (i.frm = some t.frm ∧ i.to = some t.to ∧ i.index = t.index ∧ (i.typ.isRequest = true → t.frm.bxh ≠ t.to.bxh) ∧
      ((i.typ.isRequest = true ∧ l.getS (.txRec t) = none) ∨
       ∃ rec, l.getS (.txRec t) = some (.trec rec) ∧ Moves i rec (r.1.getS (.txRec t))))) := by
  obtain ⟨ck, hck⟩ := handleIBTP_ok_checked h
  obtain ⟨e1, e2⟩ := checkIBTP_ends hck
  refine ⟨hd.mono (fun c sid => handleIBTP_svc_frame h c sid), ?_, ?_⟩
  · rw [handleIBTP_reqCounter hck h]
    split
    · exact Nat.le_succ_of_le hb
    · exact hb
  · rcases handleIBTP_rec_full hck h t with e | ⟨ht, hc⟩
    · exact Or.inl e
    · subst ht
      refine Or.inr ⟨e1, e2, rfl, (handleIBTP_known_named h hd hb e1 e2 rfl).1, hc.imp_left fun ⟨hreq, hn⟩ => ⟨hreq, hn.resolve_left ?_⟩⟩
      rw [checkIBTP_known_request_notice hck hd hb hreq]
      nofun

/-- **the status of a one-to-one transaction only moves along the state machine, over any history of
IBTPs** (requests and receipts of this and every other pair, valid or not, one-to-many traffic, in any
interleaving): if the record of `t` — a transaction of a pair with an index-checked destination whose index
the pair's counter has already passed, as it is for every record the contract created — shows status `st`,
then after the history it still has a record, and its status is reached from `st` by steps of the state machine -/
theorem C04_history_status_path (env : Env) (t : TxId) (is : List Ibtp) (l : Led) (st : Status)
    (hd : OrderedDst env l t.to) (hb : t.index ≤ reqCounter l t.frm t.to) (hs : recStatus l t = some st) :
    ∃ st', recStatus (runIbtps env l is) t = some st' ∧ Reach st st' := by
  refine (runIbtps_inv env (fun l' => OrderedDst env l' t.to ∧ t.index ≤ reqCounter l' t.frm t.to ∧
    ∃ st', recStatus l' t = some st' ∧ Reach st st') ?_ is l ⟨hd, hb, st, hs, Reach.refl st⟩).2.2
  rintro l' i r ⟨hd', hb', st', hs', hr⟩ hh
  obtain ⟨h1, h2, h3⟩ := handleIBTP_known hh hd' hb'
  refine ⟨h1, h2, ?_⟩
  obtain ⟨rec0, hr0, rfl⟩ := recStatus_some hs'
  rcases h3 with e | ⟨-, -, -, -, ⟨-, hnone⟩ | ⟨rec, hrec, hm⟩⟩
  · exact ⟨_, (recStatus_congr e).trans hs', hr⟩
  · rw [hr0] at hnone; cases hnone
  · -- one more step of the state machine
    rw [hr0] at hrec; cases hrec
    obtain ⟨st'', ev, hstep, hrec'⟩ := hm.step
    exact ⟨st'', by rw [recStatus, hrec'], Reach.step ev hr hstep⟩

/-- **SUCCESS, FAILURE and ROLLBACK are final over every history**: no sequence of IBTPs changes a record that
has reached one of them -/
theorem C04_history_final_stays (env : Env) (t : TxId) (is : List Ibtp) (l : Led) (st : Status)
    (hd : OrderedDst env l t.to) (hb : t.index ≤ reqCounter l t.frm t.to) (hs : recStatus l t = some st)
    (hf : st.isFinal = true) : recStatus (runIbtps env l is) t = some st := by
  obtain ⟨st', h1, h2⟩ := C04_history_status_path env t is l st hd hb hs
  rw [h1, h2.of_final hf]

/-- the counter hypothesis holds for every record the contract creates: right after a request of an
index-checked pair has been accepted, the pair's counter equals the request's index -/
theorem C04_created_record_is_bounded (env : Env) (l : Led) (i : Ibtp) (ck : Checked) (r : Led × String)
    (hck : checkIBTP env l i = .ok ck) (h : handleIBTP env l i = .ok r) (hreq : i.typ.isRequest = true) (hn : ck.notice = false)
    (hd : OrderedDst env l ck.dst) : i.index ≤ reqCounter r.1 ck.src ck.dst := by
  rw [handleIBTP_reqCounter hck h ck.src ck.dst, if_pos ⟨by rw [hreq, hn]; rfl, rfl, rfl⟩, orderedDst_next_index hd hck hreq hn]
  exact Nat.le_refl _

open Bxh.Props.C02 in
/-- non-vacuity: request 1 is accepted (BEGIN), the success receipt finalises it, and a replayed request,
a failure receipt and a rollback receipt afterwards leave SUCCESS in place -/
example :
    let svc : Svc := { ordered := true, blacklist := [], available := true }
    let l : Led := { store := [(.svc "c1" "s1", .svc svc), (.svc "c2" "s1", .svc svc)] }
    let env : Env := { cfg := {}, cache := [], height := 7, txIndex := 0 }
    let s11 : SvcId := { bxh := "1356", chain := "c1", sid := "s1" }
    let s21 : SvcId := { bxh := "1356", chain := "c2", sid := "s1" }
    let m (ty : IType) : Ibtp := { frm := some s11, to := some s21, index := 1, typ := ty, timeout := 0, group := none }
    let t : TxId := { frm := s11, to := s21, index := 1 }
    recStatus (runIbtps env l [m .interchain]) t = some .begin ∧
    recStatus (runIbtps env l [m .interchain, m .receiptSuccess]) t = some .success ∧
    recStatus (runIbtps env l [m .interchain, m .receiptSuccess, m .interchain, m .receiptFailure, m .receiptRollback]) t = some .success := by
  decide +kernel

/-- what a notice names: the event of the (regenerated) `txStatus2EventM` -/
theorem noticeEvent_values :
    noticeEvent .beginFailure = "dst_failure" ∧ noticeEvent .beginRollback = "dst_rollback" ∧
    noticeEvent .none = "" ∧ noticeEvent .other = "" := txFsm_facts.2.1

theorem notice_step (x : Ext) (st st' : Status) (h : txFsmStep st (noticeEvent x) = some st') :
    st = .begin ∧ ((x = .beginFailure ∧ st' = .failure) ∨ (x = .beginRollback ∧ st' = .rollback)) :=
  txFsm_facts.2.2.1 x (by cases x <;> decide) st st.mem_all st' h

/-- **the notice moves a record only from BEGIN, to FAILURE (begin-failure notice) or ROLLBACK (rollback notice)** — the two
extra transitions the property names —, and keeps the recorded deadline: `BeginInterBitXHub` on an existing record (since the
`fix:` commit "the destination hub's notice ends an inter-BitXHub transaction for the timeout mechanism too" the stored record
is read; before, the step started from an empty record: any status was taken for BEGIN and the deadline was lost) -/
theorem C04_notice_only_from_begin (l : Led) (cur : Nat) (id : TxId) (t : Nat) (x : Ext) (f : Bool) (r : Rec)
    (res : Led × StatusChange) (hrec : l.getS (.txRec id) = some (.trec r))
    (h : tmBeginInter l cur id t x f = .ok res) :
    r.status = .begin ∧ res.2.prev = some .begin ∧
    ((x = .beginFailure ∧ res.2.cur = .failure) ∨ (x = .beginRollback ∧ res.2.cur = .rollback)) ∧
    res.1.getS (.txRec id) = some (.trec { height := r.height, status := res.2.cur }) := by
  obtain ⟨l', c⟩ := res
  rcases tmBeginInter_ok h with ⟨hnone, _⟩ | ⟨rec, st', hr, hst, rfl, rfl⟩
  · rw [hrec] at hnone; cases hnone
  · cases hrec.symm.trans hr
    obtain ⟨h1, h2⟩ := notice_step x r.status st' hst
    exact ⟨h1, congrArg some h1, h2, by rw [Led.getS_addS, if_pos rfl]⟩

/-- and it is accepted whenever the record is at BEGIN -/
theorem C04_notice_accepted_at_begin (l : Led) (cur : Nat) (id : TxId) (t : Nat) (x : Ext) (f : Bool) (r : Rec)
    (hrec : l.getS (.txRec id) = some (.trec r)) (hb : r.status = .begin) (hx : x.isNotice = true) :
    ∃ res, tmBeginInter l cur id t x f = .ok res := by
  unfold tmBeginInter
  simp only [hrec, hb]
  obtain ⟨h1, h2⟩ := txFsmStep_begin_notice
  cases x <;> simp [Ext.isNotice] at hx
  · exact ⟨_, by simp [h1]; rfl⟩
  · exact ⟨_, by simp [h2]; rfl⟩

/-- non-vacuity, and the defect the fix removed: on a record that timed out (BEGIN_ROLLBACK, deadline 9) the begin-failure
notice is refused; started from an empty record — as the code did — the same notice went BEGIN → FAILURE and the written
record carried no deadline -/
example :
    let id : TxId := ⟨⟨"1356", "c1", "s1"⟩, ⟨"9999", "c5", "s1"⟩, 1⟩
    let l : Led := { store := [(.txRec id, .trec { height := 9, status := .beginRollback })] }
    (tmBeginInter l 10 id 3 .beginFailure false).toOption.isNone = true ∧
    txFsmStep ({ height := 0, status := .begin } : Rec).status (noticeEvent .beginFailure) = some .failure := by decide +kernel

/-- the history theorems cover pairs whose destination lives on another BitXHub (`OrderedDst` holds of every remote destination):
instance of `C04_history_final_stays` for a record ended by the notice -/
theorem C04_history_final_stays_remote (env : Env) (t : TxId) (is : List Ibtp) (l : Led) (st : Status)
    (hrem : isLocal env t.to = false) (hb : t.index ≤ reqCounter l t.frm t.to) (hs : recStatus l t = some st)
    (hf : st.isFinal = true) : recStatus (runIbtps env l is) t = some st :=
  C04_history_final_stays env t is l st (Or.inl hrem) hb hs hf

open Bxh.Props.C02 in
/-- non-vacuity (hub 9999 registered): request 1 to a service over there is accepted (BEGIN), the request handed back with the
begin-failure notice ends it (FAILURE), and a second notice, a rollback notice, the other hub's success receipt and a replay of
the request leave FAILURE in place; a notice for a request never made begins an ordinary transaction -/
example :
    let svc : Svc := { ordered := true, blacklist := [], available := true }
    let l : Led := { store := [(.svc "c1" "s1", .svc svc)] }
    let env : Env := { cfg := { hubs := ["9999"] }, cache := [], height := 12, txIndex := 0 }
    let s11 : SvcId := { bxh := "1356", chain := "c1", sid := "s1" }
    let r51 : SvcId := { bxh := "9999", chain := "c5", sid := "s1" }
    let m (n : Nat) (ty : IType) (x : Ext) : Ibtp := { frm := some s11, to := some r51, index := n, typ := ty, timeout := 3, group := none, ext := x }
    let t : TxId := { frm := s11, to := r51, index := 1 }
    recStatus (runIbtps env l [m 1 .interchain .none]) t = some .begin ∧
    recStatus (runIbtps env l [m 1 .interchain .none, m 1 .interchain .beginFailure]) t = some .failure ∧
    recStatus (runIbtps env l [m 1 .interchain .none, m 1 .interchain .beginFailure, m 1 .interchain .beginFailure,
      m 1 .interchain .beginRollback, m 1 .receiptSuccess .none, m 1 .interchain .none]) t = some .failure ∧
    recStatus (runIbtps env l [m 1 .interchain .beginRollback]) t = some .begin := by
  decide +kernel

/-- what is carried through a block for a final record -/
structure FinalInv (env : Env) (l : Led) (t : TxId) (st : Status) : Prop where
  ordered : OrderedDst env l t.to
  bound : t.index ≤ reqCounter l t.frm t.to
  status : recStatus l t = some st

theorem FinalInv.of_reads {env : Env} {l l' : Led} {t : TxId} {st : Status} (h : FinalInv env l t st)
    (hs : ∀ c sid, l'.getS (.svc c sid) = l.getS (.svc c sid)) (hi : ∀ x, l'.getS (.ic x) = l.getS (.ic x))
    (ht : l'.getS (.txRec t) = l.getS (.txRec t)) : FinalInv env l' t st :=
  ⟨h.ordered.mono hs, by rw [reqCounter_congr hi]; exact h.bound, by rw [recStatus_congr ht]; exact h.status⟩

/-- the transaction is no direct call of the unguarded `DeleteInterchain`, which resets the counters of a pair (an open finding of
C17) -/
def NoDelete (tx : Tx) : Prop := ∀ sg args, tx ≠ .bvm sg "interchain" "DeleteInterchain" args

/-- `handleIBTP_known` for a whole transaction: any kind, valid or not, fee paid or not -/
theorem applyTx_known {e0 : Env} (env : Env) (he : SameHub e0 env) (l : Led) (tx : Tx) (inv : Option String)
    (t : TxId) (hd : OrderedDst e0 l t.to) (hbd : t.index ≤ reqCounter l t.frm t.to) (hnd : NoDelete tx) :
    OrderedDst e0 (applyTx env l tx inv).1 t.to ∧ t.index ≤ reqCounter (applyTx env l tx inv).1 t.frm t.to ∧
    ((applyTx env l tx inv).1.getS (.txRec t) = l.getS (.txRec t) ∨
     ∃ s i p, tx = .ibtp s i p ∧ i.frm = some t.frm ∧ i.to = some t.to ∧ i.index = t.index ∧
      (i.typ.isRequest = true → t.frm.bxh ≠ t.to.bxh) ∧
      ((i.typ.isRequest = true ∧ l.getS (.txRec t) = none) ∨
       ∃ rec, l.getS (.txRec t) = some (.trec rec) ∧ Moves i rec ((applyTx env l tx inv).1.getS (.txRec t)))) := by
  refine ⟨hd.mono (fun c sid => applyTx_svc env l tx inv c sid), ?_, ?_⟩
  · rcases C02_tx_counter_step env l tx inv t.frm t.to (orderedDst_env he hd) hnd with h | ⟨h, -⟩
    · rw [h]; exact hbd
    · rw [h]; exact Nat.le_succ_of_le hbd
  · cases applyTx_effect env l tx inv with
    | nothing hget => exact .inl (hget _)
    | bvm _ _ _ _ _ _ hrun hget => exact .inl ((hget _).trans (applyBvm_writes hrun).getS)
    | ibtp s i p env' r htx hub _ hrun hget =>
      rw [hget]
      exact (handleIBTP_known hrun (orderedDst_env (he.trans hub) hd) hbd).2.2.imp_right fun k => ⟨s, i, p, htx, k⟩

theorem applyTx_known_named {e0 : Env} (env : Env) (he : SameHub e0 env) (l : Led) (s : String)
    (i : Ibtp) (p : ProofKind) (inv : Option String) (t : TxId) (hd : OrderedDst e0 l t.to) (hbd : t.index ≤ reqCounter l t.frm t.to)
    (hfr : i.frm = some t.frm) (hto : i.to = some t.to) (hix : i.index = t.index)
    (hok : (applyTx env l (.ibtp s i p) inv).2.rcpt.ok = true) :
    (i.typ.isRequest = true → t.frm.bxh ≠ t.to.bxh) ∧
    ∀ rec, l.getS (.txRec t) = some (.trec rec) → Moves i rec ((applyTx env l (.ibtp s i p) inv).1.getS (.txRec t)) := by
  obtain ⟨r, h, h2⟩ := applyTx_ok_effect env l s i p inv hok
  rw [h2]
  exact handleIBTP_known_named (l := txStart l) h (orderedDst_env he (hd.mono fun _ _ => rfl)) hbd hfr hto hix

theorem final_step {e0 : Env} (env : Env) (he : SameHub e0 env) (l : Led) (tx : Tx) (inv : Option String)
    (t : TxId) (st : Status) (hI : FinalInv e0 l t st) (hf : st.isFinal = true) (hnd : NoDelete tx) :
    FinalInv e0 (applyTx env l tx inv).1 t st ∧ reqOk t (tx, (applyTx env l tx inv).2.rcpt) = false := by
  obtain ⟨h1, h2, h3⟩ := applyTx_known env he l tx inv t hI.ordered hI.bound hnd
  obtain ⟨rec0, hr0, rfl⟩ := recStatus_some hI.status
  refine ⟨⟨h1, h2, ?_⟩, ?_⟩
  · rcases h3 with e | ⟨s, i, p, -, -, -, -, -, ⟨-, hnone⟩ | ⟨rec, hr, hm⟩⟩
    · rw [recStatus_congr e]; exact hI.status
    · rw [hr0] at hnone; cases hnone
    · rw [hr0] at hr; cases hr
      cases hf.symm.trans (moves_not_final hm)
  · refine reqOk_false fun s i p htx ⟨_, hfr, hto, hix⟩ => Bool.eq_false_iff.mpr fun hok => ?_
    -- accepted, the request would have moved the final record
    subst htx
    cases hf.symm.trans (moves_not_final ((applyTx_known_named env he l s i p inv t hI.ordered hI.bound hfr hto hix hok).2 rec0 hr0))

/-- **one transaction of a block** (any kind, valid or not, fee paid or not) keeps a final record as it is -/
theorem C04_tx_final_stays (env : Env) (l : Led) (tx : Tx) (inv : Option String) (t : TxId) (st : Status)
    (hI : FinalInv env l t st) (hf : st.isFinal = true)
    (hnd : ∀ sg args, tx ≠ .bvm sg "interchain" "DeleteInterchain" args) :
    FinalInv env (applyTx env l tx inv).1 t st :=
  (final_step env ⟨rfl, rfl⟩ l tx inv t st hI hf hnd).1

/-- a transaction of an index-checked pair inside one hub whose request has been accepted (the pair's counter has reached
its index) -/
structure PairInv (env : Env) (l : Led) (t : TxId) : Prop where
  ordered : OrderedDst env l t.to
  bound : t.index ≤ reqCounter l t.frm t.to
  loc : t.frm.bxh = t.to.bxh

theorem PairInv.of_reads {env : Env} {l l' : Led} {t : TxId} (h : PairInv env l t)
    (hs : ∀ c sid, l'.getS (.svc c sid) = l.getS (.svc c sid)) (hi : ∀ x, l'.getS (.ic x) = l.getS (.ic x)) : PairInv env l' t :=
  ⟨h.ordered.mono hs, by rw [reqCounter_congr hi]; exact h.bound, h.loc⟩

theorem handleIBTP_response_ret {env : Env} {l : Led} {i : Ibtp} {r : Led × String} (h : handleIBTP env l i = .ok r)
    (hresp : i.typ.isResponse = true) : r.2 ≠ "begin_failure" := by
  obtain ⟨ck, l1, c, hck, -, p, hp, hret, -⟩ := handleIBTP_ok h
  rw [hret, ← hp, processIBTP_ret, (checkIBTP_ok_response hck (.inl hresp)).1]
  split <;> decide

theorem applyTx_response_txStatus (env : Env) (l : Led) (s : String) (i : Ibtp) (p : ProofKind) (inv : Option String)
    (hresp : i.typ.isResponse = true) : (applyTx env l (.ibtp s i p) inv).2.rcpt.txStatus = 0 := by
  rw [applyTx_txStatus]
  cases applyBxh_body env (txStart l) (.ibtp s i p) inv rfl with
  | kept _ _ hres => rw [hres]; rfl
  | hole _ _ _ _ _ _ _ hres => rw [hres]; rfl
  | ibtp s' i' p' ret htx hrun hres =>
    cases htx
    rw [hres, mkRcpt, if_neg (by simpa using handleIBTP_response_ret hrun hresp)]
  | xfer _ _ _ htx => cases htx
  | bvm _ _ _ _ _ htx => cases htx

/-- a receipt transaction for `t` paired with its receipt (which never carries the begin-failure mark) -/
def RespOf (t : TxId) (p : Tx × Rcpt) : Prop := C06.RespFor t p.1 ∧ p.2.txStatus = 0

def RecOrDone (t : TxId) (rec : Rec) (l : Led) (zs : List (Tx × Rcpt)) : Prop :=
  l.getS (.txRec t) = some (.trec rec) ∨
  ∃ st, st.isFinal = true ∧ l.getS (.txRec t) = some (.trec { rec with status := st }) ∧ ∃ p ∈ zs, RespOf t p

theorem PairInv.conv {l : Led} {t : TxId} {e1 e2 : Env} (he : SameHub e1 e2) (h : PairInv e1 l t) : PairInv e2 l t :=
  ⟨orderedDst_env he h.ordered, h.bound, h.loc⟩

theorem applyTx_known_rec (env : Env) (l : Led) (tx : Tx) (inv : Option String) (t : TxId)
    (hI : PairInv env l t) (hnd : ∀ sg args, tx ≠ .bvm sg "interchain" "DeleteInterchain" args) :
    PairInv env (applyTx env l tx inv).1 t ∧
    ((applyTx env l tx inv).1.getS (.txRec t) = l.getS (.txRec t) ∨
     (∃ s i p, tx = .ibtp s i p ∧ i.typ.isResponse = true ∧ i.frm = some t.frm ∧ i.to = some t.to ∧ i.index = t.index ∧
       ∃ rec st', l.getS (.txRec t) = some (.trec rec) ∧ txFsmStep rec.status (receiptEvent i.typ.toNat) = some st' ∧
         (applyTx env l tx inv).1.getS (.txRec t) = some (.trec { rec with status := st' }))) := by
  obtain ⟨h1, h2, h3⟩ := applyTx_known env ⟨rfl, rfl⟩ l tx inv t hI.ordered hI.bound hnd
  refine ⟨⟨h1, h2, hI.loc⟩, h3.imp_right ?_⟩
  -- inside one hub there is no notice
  rintro ⟨s, i, p, htx, hfr, hto, hix, hne, ⟨hreq, -⟩ | ⟨rec, hr, st', hr', ⟨hreq, -⟩ | ⟨hresp, hstep⟩⟩⟩
  · exact absurd hI.loc (hne hreq)
  · exact absurd hI.loc (hne hreq)
  · exact ⟨s, i, p, htx, hresp, hfr, hto, hix, rec, st', hr, hstep, hr'⟩

theorem pair_step {e0 : Env} (env : Env) (he : SameHub e0 env) (l : Led) (tx : Tx) (inv : Option String)
    (t : TxId) (hP : PairInv e0 l t) (hnd : NoDelete tx) :
    PairInv e0 (applyTx env l tx inv).1 t ∧ reqOk t (tx, (applyTx env l tx inv).2.rcpt) = false ∧
    ∀ rec, l.getS (.txRec t) = some (.trec rec) →
      ((applyTx env l tx inv).1.getS (.txRec t) = some (.trec rec) ∨
       ∃ st', rec.status.isFinal = false ∧ st'.isFinal = true ∧
        (applyTx env l tx inv).1.getS (.txRec t) = some (.trec { rec with status := st' }) ∧ RespOf t (tx, (applyTx env l tx inv).2.rcpt)) ∧
      (C06.RespFor t tx → (applyTx env l tx inv).2.rcpt.ok = true →
        ∃ st', st'.isFinal = true ∧ (applyTx env l tx inv).1.getS (.txRec t) = some (.trec { rec with status := st' })) := by
  obtain ⟨h1, h3⟩ := applyTx_known_rec env l tx inv t (hP.conv he) hnd
  refine ⟨h1.conv ⟨he.1.symm, he.2.symm⟩, ?_, fun rec hr0 => ⟨?_, ?_⟩⟩
  · refine reqOk_false fun s i p htx ⟨hreq, hfr, hto, hix⟩ => Bool.eq_false_iff.mpr fun hok => ?_
    -- accepted, the request would be the notice of another hub
    subst htx
    exact (applyTx_known_named env he l s i p inv t hP.ordered hP.bound hfr hto hix hok).1 hreq hP.loc
  · rcases h3 with e | ⟨s, i, p, htx, hresp, hfr, hto, hix, rec', st', hr, hstep, hr'⟩
    · exact .inl (e.trans hr0)
    · -- a receipt for `t`: its event leads to a final status, and leaves none
      subst htx
      cases hr0.symm.trans hr
      cases hf : rec.status.isFinal with
      | true => rw [C04_final_absorbing_step _ _ hf] at hstep; cases hstep
      | false =>
        exact .inr ⟨st', rfl, txFsmStep_receipt_final hresp hstep, hr',
          ⟨s, i, p, rfl, hresp, hfr, hto, hix⟩, applyTx_response_txStatus env l s i p inv hresp⟩
  · rintro ⟨s, i, p, rfl, hresp, hfr, hto, hix⟩ hok
    exact moves_of_response ((applyTx_known_named env he l s i p inv t hP.ordered hP.bound hfr hto hix hok).2 rec hr0) hresp

theorem countP_snoc_false {α : Type} {p : α → Bool} {zs : List α} {q : α} (hq : p q = false) :
    (zs ++ [q]).countP p = zs.countP p := by
  rw [List.countP_append, List.countP_singleton, hq]; rfl

theorem recOrDone_step {t : TxId} {rec : Rec} {l l' : Led} {zs : List (Tx × Rcpt)} {q : Tx × Rcpt}
    (hD : ∀ r, l.getS (.txRec t) = some (.trec r) → l'.getS (.txRec t) = some (.trec r) ∨
      ∃ st', r.status.isFinal = false ∧ st'.isFinal = true ∧ l'.getS (.txRec t) = some (.trec { r with status := st' }) ∧ RespOf t q)
    (hR : RecOrDone t rec l zs) : RecOrDone t rec l' (zs ++ [q]) := by
  rcases hR with hr | ⟨st, hf, hr, p, hp, hresp⟩
  · rcases hD rec hr with h | ⟨st', _, hf', h, hresp⟩
    · exact .inl h
    · exact .inr ⟨st', hf', h, q, List.mem_append_right _ (List.mem_singleton.mpr rfl), hresp⟩
  · rcases hD _ hr with h | ⟨_, hopen, _⟩
    · exact .inr ⟨st, hf, h, p, List.mem_append_left _ hp, hresp⟩
    · rw [hf] at hopen; cases hopen

/-- a request naming a known transaction of a pair inside one hub gets a FAILED receipt -/
theorem C04_known_request_refused (env : Env) (l : Led) (tx : Tx) (inv : Option String) (t : TxId)
    (hI : PairInv env l t) (s : String) (i : Ibtp) (p : ProofKind) (htx : tx = .ibtp s i p)
    (hfr : i.frm = some t.frm) (hto : i.to = some t.to) (hix : i.index = t.index) (hreq : i.typ.isRequest = true) :
    (applyTx env l tx inv).2.rcpt.ok = false := by
  subst htx
  exact Bool.eq_false_iff.mpr fun hok => (applyTx_known_named env ⟨rfl, rfl⟩ l s i p inv t hI.ordered hI.bound hfr hto hix hok).1 hreq hI.loc

/-- a transaction of a local, index-checked pair that has not been accepted yet: the pair's counter is still below its index and it
has no record -/
structure NewInv (env : Env) (l : Led) (t : TxId) : Prop where
  ordered : OrderedDst env l t.to
  loc : t.frm.bxh = t.to.bxh
  ahead : reqCounter l t.frm t.to < t.index
  norec : l.getS (.txRec t) = none

theorem NewInv.of_reads {env : Env} {l l' : Led} {t : TxId} (h : NewInv env l t)
    (hs : ∀ c sid, l'.getS (.svc c sid) = l.getS (.svc c sid)) (hi : ∀ x, l'.getS (.ic x) = l.getS (.ic x))
    (ht : l'.getS (.txRec t) = l.getS (.txRec t)) : NewInv env l' t :=
  ⟨h.ordered.mono hs, h.loc, by rw [reqCounter_congr hi]; exact h.ahead, ht.trans h.norec⟩

theorem handleIBTP_new {e0 env : Env} {l : Led} {i : Ibtp} {r : Led × String} {t : TxId}
    (he : SameHub e0 env) (hN : NewInv e0 l t) (h : handleIBTP env l i = .ok r) :
    (i.typ.isRequest = true ∧ i.frm = some t.frm ∧ i.to = some t.to ∧ i.index = t.index ∧ PairInv e0 r.1 t ∧
      (i.group = none → ∃ st, st.isFinal = false ∧
        r.1.getS (.txRec t) = some (.trec { height := recordHeight env.height (toU64 i.timeout), status := st }))) ∨
    (¬ (i.typ.isRequest = true ∧ i.frm = some t.frm ∧ i.to = some t.to ∧ i.index = t.index) ∧ NewInv e0 r.1 t) := by
  obtain ⟨ck, hck⟩ := handleIBTP_ok_checked h
  obtain ⟨e1, e2⟩ := checkIBTP_ends hck
  have hord : OrderedDst e0 r.1 t.to := hN.ordered.mono (fun c sid => handleIBTP_svc_frame h c sid)
  -- the counter: a request of the pair carries the next index and advances it by one, anything else leaves it
  have hctr := handleIBTP_pair_counter t.frm t.to (orderedDst_env he hN.ordered) h
  by_cases hq : i.typ.isRequest = true ∧ i.frm = some t.frm ∧ i.to = some t.to ∧ i.index = t.index
  · obtain ⟨hreq, hfr, hto, hix⟩ := hq
    rw [if_pos ⟨hreq, hfr, hto, by rw [isNotification, hN.loc, beq_self_eq_true, Bool.true_or, if_pos rfl]⟩] at hctr
    refine .inl ⟨hreq, hfr, hto, hix, ⟨hord, by rw [hctr.2, ← hctr.1, hix]; exact Nat.le_refl _, hN.loc⟩, fun hg => ?_⟩
    obtain ⟨f, d, ix⟩ := t
    cases e1.symm.trans hfr
    cases e2.symm.trans hto
    cases hix
    exact ⟨_, by cases ck.targetErr <;> rfl, handleIBTP_new_record hck h hreq hN.loc hg⟩
  · refine .inr ⟨hq, hord, hN.loc, ?_, ?_⟩
    · by_cases hp : i.typ.isRequest = true ∧ i.frm = some t.frm ∧ i.to = some t.to ∧ isNotification l t.frm t.to i = some false
      · -- a request of the pair with another index: it carries the counter's successor, which is not `t.index`
        rw [if_pos hp] at hctr
        rw [hctr.2]
        exact Nat.lt_of_le_of_ne hN.ahead (hctr.1 ▸ fun e => hq ⟨hp.1, hp.2.1, hp.2.2.1, e⟩)
      · rw [if_neg hp] at hctr
        rw [hctr]
        exact hN.ahead
    · -- no request naming `t`: no record of `t` is written
      rcases handleIBTP_rec hck h t with e | ⟨hreq, ht, _⟩ | ⟨_, st, _, hs, _, _⟩
      · exact e.trans hN.norec
      · exact absurd ⟨hreq, by rw [e1, ht], by rw [e2, ht], by rw [ht]⟩ hq
      · rw [recStatus, hN.norec] at hs; cases hs

theorem new_step {e0 : Env} (env : Env) (he : SameHub e0 env) (l : Led) (tx : Tx) (inv : Option String)
    (t : TxId) (hN : NewInv e0 l t) (hnd : NoDelete tx)
    (hng : ∀ s i p, tx = .ibtp s i p → reqFor t tx = true → i.group = none) :
    (NewInv e0 (applyTx env l tx inv).1 t ∧ reqOk t (tx, (applyTx env l tx inv).2.rcpt) = false) ∨
    (PairInv e0 (applyTx env l tx inv).1 t ∧ ∃ s i p st, tx = .ibtp s i p ∧ st.isFinal = false ∧
      (applyTx env l tx inv).1.getS (.txRec t) = some (.trec { height := recordHeight env.height (toU64 i.timeout), status := st })) := by
  have like : ∀ {l1 l2 : Led}, (∀ k, l2.getS k = l1.getS k) → NewInv e0 l1 t → NewInv e0 l2 t := fun hk h =>
    h.of_reads (fun _ _ => hk _) (fun _ => hk _) (hk _)
  have hN0 : NewInv e0 (txStart l) t := like (l1 := l) (fun _ => rfl) hN
  cases applyTx_effect env l tx inv with
  | nothing hget hfail =>
    exact Or.inl ⟨like hget hN0, reqOk_false fun s i p htx _ => hfail s i p htx⟩
  | bvm sg c m args r htx hrun hget =>
    -- a contract call other than `DeleteInterchain` writes nothing
    obtain ⟨l', ret⟩ := r
    rcases applyBvm_ok hrun with rfl | ⟨rfl, rfl, -⟩
    · exact Or.inl ⟨like hget hN0, by rw [htx]; rfl⟩
    · exact absurd htx (hnd sg args)
  | ibtp s i p env' r htx hub hheight hrun hget =>
    subst htx
    rcases handleIBTP_new (he.trans hub) hN0 hrun with ⟨hreq, hfr, hto, hix, hP, hrec⟩ | ⟨hno, hN'⟩
    · -- accepted with its effects, even where the receipt is no success (the audit event failed after everything was written)
      obtain ⟨st, hnf, hr⟩ := hrec (hng s i p rfl (reqFor_of hreq hfr hto hix))
      exact .inr ⟨hP.of_reads (fun _ _ => hget _) (fun _ => hget _), s, i, p, st, rfl, hnf, by rw [hget, hr, hheight]⟩
    · exact .inl ⟨like hget hN', reqOk_false fun _ _ _ e hq => by cases e; exact absurd hq hno⟩

def Accepted (h : Nat) (t : TxId) (zs : List (Tx × Rcpt)) (rec : Rec) : Prop :=
  zs.countP (reqOk t) ≤ 1 ∧
  ∀ p ∈ zs, reqOk t p = true → ∀ s i pk, p.1 = .ibtp s i pk → rec.height = recordHeight h (toU64 i.timeout)

theorem accepted_append_false {h : Nat} {t : TxId} {zs : List (Tx × Rcpt)} {rec : Rec} {p : Tx × Rcpt}
    (hA : Accepted h t zs rec) (hp : reqOk t p = false) : Accepted h t (zs ++ [p]) rec := by
  obtain ⟨h1, h2⟩ := hA
  refine ⟨by rw [countP_snoc_false hp]; exact h1, ?_⟩
  intro q hq hok
  rcases List.mem_append.mp hq with h | h
  · exact h2 q h hok
  · cases List.mem_singleton.mp h; rw [hp] at hok; cases hok

/-- the invariant of the loop of block `h` for a transaction that was new when the block started: still new and no request for it
accepted; or begun by the one accepted request, which names its deadline, and open or already answered -/
def FreshLoop (e0 : Env) (h : Nat) (t : TxId) (l : Led) (zs : List (Tx × Rcpt)) : Prop :=
  (NewInv e0 l t ∧ zs.countP (reqOk t) = 0) ∨
  ∃ rec, rec.status.isFinal = false ∧ PairInv e0 l t ∧ Accepted h t zs rec ∧ RecOrDone t rec l zs

theorem accepted_first {h : Nat} {t : TxId} {zs : List (Tx × Rcpt)} (hq : zs.countP (reqOk t) = 0) (s : String) (i : Ibtp) (p : ProofKind)
    (rc : Rcpt) (st : Status) : Accepted h t (zs ++ [(.ibtp s i p, rc)]) { height := recordHeight h (toU64 i.timeout), status := st } := by
  refine ⟨by rw [List.countP_append, hq, List.countP_singleton]; split <;> omega, fun q hq' hok s' i' p' e => ?_⟩
  rcases List.mem_append.mp hq' with hm | hm
  · exact absurd hok (List.countP_eq_zero.mp hq q hm)
  · cases List.mem_singleton.mp hm; cases e; rfl

/-- the record of `t` is not on the timeout list of the block's height when the timeout step of that block runs -/
def NotListedAtStep (cfg : Cfg) (n : Node) (txs : List (Tx × Bool)) (t : TxId) : Prop :=
  TId.single t ∉ getTimeoutList
    (setTimeoutList cfg (applyTxs cfg n.cache (n.height + 1) n.led txs).led (n.height + 1) (txs.map (·.1))
      (applyTxs cfg n.cache (n.height + 1) n.led txs).rcpts) (n.height + 1)

/-- a final record that is on no timeout list of a height still to come -/
structure FinalInvL (env : Env) (l : Led) (cur : Nat) (t : TxId) (st : Status) : Prop where
  base : FinalInv env l t st
  unlisted : ∀ d, cur < d → ¬ listedAt l d t

/-- an open (not yet final) one-to-one transaction at a block boundary (`cur` = height of the last block): known, with a record, and on
the timeout lists still to come at most once and only on the list its record names -/
structure OpenInv (env : Env) (l : Led) (cur : Nat) (t : TxId) (rec0 : Rec) : Prop where
  pair : PairInv env l t
  recd : l.getS (.txRec t) = some (.trec rec0)
  cnt : ∀ d, cur < d → listCount l d t ≤ 1
  only : ∀ d, cur < d → listedAt l d t → d = rec0.height

/-- the bookkeeping of the block is not abandoned -/
def NoAbort (cfg : Cfg) (n : Node) (txs : List (Tx × Bool)) : Prop :=
  (((txs.map (·.1)).zip (applyTxs cfg n.cache (n.height + 1) n.led txs).rcpts).map
    (fun p => timeoutAct cfg (applyTxs cfg n.cache (n.height + 1) n.led txs).led (n.height + 1) p.1 p.2)).contains .abort = false

theorem reqOk_of_add {cfg : Cfg} {l : Led} {h d : Nat} {t : TxId} {p : Tx × Rcpt} (e : timeoutAct cfg l h p.1 p.2 = .add d t) :
    reqOk t p = true := by
  obtain ⟨s, i, pk, htx, hfr, hto, hix, hreq, hok⟩ := timeoutAct_add e
  rw [reqOk, htx, reqFor_of hreq hfr hto hix, hok]; rfl

theorem count_adds_le_countP (cfg : Cfg) (l : Led) (h d : Nat) (t : TxId) (zs : List (Tx × Rcpt)) :
    (addsAt d (zs.map (fun p => timeoutAct cfg l h p.1 p.2))).count t ≤ zs.countP (reqOk t) := by
  rw [count_addsAt, List.count_eq_countP, List.countP_map]
  exact List.countP_mono_left fun p _ hp => reqOk_of_add (eq_of_beq hp)

theorem adds_none {cfg : Cfg} {l : Led} {h d : Nat} {t : TxId} {zs : List (Tx × Rcpt)} (hq : zs.countP (reqOk t) = 0) :
    (addsAt d (zs.map (fun p => timeoutAct cfg l h p.1 p.2))).count t = 0 :=
  Nat.le_zero.mp (hq ▸ count_adds_le_countP cfg l h d t zs)

theorem listAfter_unlisted' (v : Option Val) (A R : List TxId) (lst : List (Option TId)) (t : TxId)
    (hR : t ∈ R) (hc : (curList v).count (some (TId.single t)) + A.count t ≤ 1)
    (e : listAfter v A R = some (.tlist lst)) : some (TId.single t) ∉ lst := by
  have : lst = curList (listAfter v A R) := by rw [e]; rfl
  rw [this, curList_listAfter, ← List.count_eq_zero]
  exact count_bookRems_of_mem hR (by rw [count_bookAdds]; exact hc)

theorem timeoutAct_receipt_final (cfg : Cfg) (l : Led) (h : Nat) (s : String) (i : Ibtp) (p : ProofKind) (rc : Rcpt) (t : TxId) (r : Rec)
    (hresp : i.typ.isResponse = true) (hfr : i.frm = some t.frm) (hto : i.to = some t.to) (hix : i.index = t.index)
    (hts : rc.txStatus = 0) (hdst : (t.to.chain == cfg.bxh) = false)
    (hrec : l.getS (.txRec t) = some (.trec r)) (hf : r.status.isFinal = true) :
    timeoutAct cfg l h (.ibtp s i p) rc = .remove r.height t := by
  exact timeoutAct_eq_remove.mpr ⟨s, i, p, rfl, hfr, hto, hix, by rw [unbooked_receipt hresp]; exact hdst,
    .inr ⟨hresp, by rw [hts]; nofun, r, hrec, .inr hf, rfl⟩⟩

theorem respOf_remove {cfg : Cfg} {l : Led} (h : Nat) {t : TxId} (rec : Rec) {zs : List (Tx × Rcpt)}
    (hdst : (t.to.chain == cfg.bxh) = false) (hr : l.getS (.txRec t) = some (.trec rec)) (hf : rec.status.isFinal = true)
    (hresp : ∃ p ∈ zs, RespOf t p) : TOAct.remove rec.height t ∈ zs.map (fun p => timeoutAct cfg l h p.1 p.2) := by
  obtain ⟨q, hq, ⟨s, i, pk, hq1, hrsp, hfr, hto, hix⟩, hts⟩ := hresp
  refine List.mem_map.mpr ⟨q, hq, ?_⟩
  rw [hq1]
  exact timeoutAct_receipt_final cfg l h s i pk q.2 t rec hrsp hfr hto hix hts hdst hr hf

/-- an addition of `t` comes from the accepted request, whose timeout gives the recorded deadline: it is made under that deadline -/
theorem accepted_add_deadline {cfg : Cfg} {l : Led} {h : Nat} {t : TxId} {zs : List (Tx × Rcpt)} {rec : Rec} (hA : Accepted h t zs rec) {d : Nat}
    (hpos : 0 < (addsAt d (zs.map (fun p => timeoutAct cfg l h p.1 p.2))).count t) : d = rec.height := by
  obtain ⟨pr, hpr, hact⟩ := List.mem_map.mp (mem_addsAt (List.count_pos_iff.mp hpos))
  obtain ⟨s, i, p, htx, h1, h2, h3⟩ := timeoutAct_add_deadline hact
  have := hA.2 pr hpr (reqOk_of_add hact) s i p htx
  rw [recordHeight_of_add _ _ h1 h2] at this
  exact h3.trans this.symm

def blockPairs (cfg : Cfg) (n : Node) (txs : List (Tx × Bool)) : List (Tx × Rcpt) :=
  (txs.map (·.1)).zip (applyTxs cfg n.cache (n.height + 1) n.led txs).rcpts

def blockActs (cfg : Cfg) (n : Node) (txs : List (Tx × Bool)) : List TOAct :=
  (blockPairs cfg n txs).map fun p => timeoutAct cfg (applyTxs cfg n.cache (n.height + 1) n.led txs).led (n.height + 1) p.1 p.2

theorem execBlock_cache (cfg : Cfg) (n : Node) (txs : List (Tx × Bool)) : (execBlock cfg n txs).1.cache = n.cache := rfl

section
variable (cfg : Cfg) (n : Node) (txs : List (Tx × Bool))

theorem execBlock_count_le (d : Nat) (t : TxId) :
    listCount (execBlock cfg n txs).1.led d t ≤ listCount n.led d t + (addsAt d (blockActs cfg n txs)).count t := by
  rw [execBlock_led, blockEnd_listCount, ← applyTxs_count_eq cfg n.cache (n.height + 1) n.led txs d t]
  exact setTimeoutList_count_le ..

theorem execBlock_count_le_of_no_req (d : Nat) (t : TxId) (hq : (blockPairs cfg n txs).countP (reqOk t) = 0) :
    listCount (execBlock cfg n txs).1.led d t ≤ listCount n.led d t := by
  have := execBlock_count_le cfg n txs d t
  rwa [blockActs, adds_none hq] at this

theorem execBlock_count_eq (d : Nat) (t : TxId) (hna : NoAbort cfg n txs) (hR : t ∉ remsAt d (blockActs cfg n txs)) :
    listCount (execBlock cfg n txs).1.led d t = listCount n.led d t + (addsAt d (blockActs cfg n txs)).count t := by
  rw [execBlock_led, blockEnd_listCount, ← applyTxs_count_eq cfg n.cache (n.height + 1) n.led txs d t]
  exact setTimeoutList_count_of_not_mem hna hR

theorem execBlock_count_zero {d : Nat} {t : TxId} (hna : NoAbort cfg n txs) (hrem : TOAct.remove d t ∈ blockActs cfg n txs)
    (hc : listCount n.led d t + (addsAt d (blockActs cfg n txs)).count t ≤ 1) :
    listCount (execBlock cfg n txs).1.led d t = 0 := by
  rw [execBlock_led, blockEnd_listCount]
  exact setTimeoutList_count_of_mem hna (mem_remsAt_of hrem) (by rw [applyTxs_count_eq]; exact hc)

end

/-- `l'` is the ledger `l` after the end of block `h` (timeout bookkeeping, timeout step, `Finalise`) as far as one-to-one transactions
go: a record is kept unless its transaction is on the list of `h`, which sets it to BEGIN_ROLLBACK under `h` -/
structure Ends (l : Led) (h : Nat) (l' : Led) : Prop where
  svc : ∀ c sid, l'.getS (.svc c sid) = l.getS (.svc c sid)
  ic : ∀ x, l'.getS (.ic x) = l.getS (.ic x)
  txRec : ∀ t, l'.getS (.txRec t) = l.getS (.txRec t) ∨
    (0 < listCount l' h t ∧ l'.getS (.txRec t) = some (.trec { height := h, status := .beginRollback }))

theorem execBlock_ends (cfg : Cfg) (n : Node) (txs : List (Tx × Bool)) :
    Ends (applyTxs cfg n.cache (n.height + 1) n.led txs).led (n.height + 1) (execBlock cfg n txs).1.led := by
  rw [execBlock_led]
  refine ⟨fun _ _ => blockEnd_getS .., fun _ => blockEnd_getS .., fun t => ?_⟩
  rw [blockEnd_listCount]
  exact (blockEnd_rec ..).imp_right fun ⟨hm, e⟩ => ⟨listedAt_iff_count.mp (listedAt_of_mem_getTimeoutList hm), e⟩

section
variable {e : Env} {l l' : Led} {h : Nat} {t : TxId} (hE : Ends l h l')
include hE

theorem Ends.pair (hP : PairInv e l t) : PairInv e l' t := hP.of_reads hE.svc hE.ic

theorem Ends.new (hN : NewInv e l t) (hz : listCount l' h t = 0) : NewInv e l' t := by
  rcases hE.txRec t with e | ⟨hpos, -⟩
  · exact hN.of_reads hE.svc hE.ic e
  · rw [hz] at hpos; cases hpos

theorem Ends.final {st : Status} (hF : FinalInv e l t st) (hz : ∀ d, h ≤ d → listCount l' d t = 0) : FinalInvL e l' h t st := by
  rcases hE.txRec t with e | ⟨hpos, -⟩
  · exact ⟨hF.of_reads hE.svc hE.ic e, fun d hd => listCount_eq_zero.mp (hz d (Nat.le_of_lt hd))⟩
  · rw [hz h (Nat.le_refl h)] at hpos; cases hpos

theorem Ends.stillOpen {rec : Rec} (hP : PairInv e l t) (hr : l.getS (.txRec t) = some (.trec rec))
    (hc : ∀ d, h ≤ d → listCount l' d t ≤ 1) (ho : ∀ d, h ≤ d → 0 < listCount l' d t → d = rec.height) :
    ∃ rec', OpenInv e l' h t rec' ∧ (rec' = rec ∨ (rec.height = h ∧ rec' = { height := h, status := .beginRollback })) := by
  have hc' : ∀ d, h < d → listCount l' d t ≤ 1 := fun d hd => hc d (Nat.le_of_lt hd)
  have ho' : ∀ d, h < d → listedAt l' d t → d = rec.height := fun d hd hl => ho d (Nat.le_of_lt hd) (listedAt_iff_count.mp hl)
  rcases hE.txRec t with e | ⟨hpos, e⟩
  · exact ⟨rec, ⟨hE.pair hP, e.trans hr, hc', ho'⟩, .inl rfl⟩
  · -- the timeout step fired: `h` is the recorded deadline
    have hdl := ho h (Nat.le_refl h) hpos
    refine ⟨_, ⟨hE.pair hP, e, hc', fun d hd hl => ?_⟩, .inr ⟨hdl.symm, rfl⟩⟩
    exact absurd ((ho' d hd hl).trans hdl.symm) (Nat.ne_of_gt hd)

end

/-- a transaction answered in this block: the bookkeeping takes it off the list of `rec`'s deadline, the only list it is on, and there
once (`hc`, `ho`) -/
theorem execBlock_answered (cfg : Cfg) (n : Node) (txs : List (Tx × Bool)) {e : Env} {t : TxId} {rec : Rec} {st : Status}
    (hP : PairInv e (applyTxs cfg n.cache (n.height + 1) n.led txs).led t) (hr : (applyTxs cfg n.cache (n.height + 1) n.led txs).led.getS (.txRec t) = some (.trec { rec with status := st })) (hf : st.isFinal = true)
    (hresp : ∃ p ∈ blockPairs cfg n txs, RespOf t p) (hdst : (t.to.chain == cfg.bxh) = false) (hna : NoAbort cfg n txs)
    (hc : ∀ d, n.height < d → listCount n.led d t + (addsAt d (blockActs cfg n txs)).count t ≤ 1)
    (ho : ∀ d, n.height < d → 0 < listCount (execBlock cfg n txs).1.led d t → d = rec.height) :
    FinalInvL e (execBlock cfg n txs).1.led (n.height + 1) t st := by
  refine (execBlock_ends cfg n txs).final ⟨hP.ordered, hP.bound, by rw [recStatus, hr]⟩ fun d hd => ?_
  rcases Nat.eq_zero_or_pos (listCount (execBlock cfg n txs).1.led d t) with h0 | hp
  · exact h0
  · cases ho d hd hp
    exact execBlock_count_zero cfg n txs hna (respOf_remove _ { rec with status := st } hdst hr hf hresp) (hc _ hd)

theorem block_final_loop (cfg : Cfg) (n : Node) (txs : List (Tx × Bool)) (t : TxId) (st : Status)
    (hI : FinalInv { cfg := cfg, cache := n.cache, height := 0, txIndex := 0 } n.led t st) (hf : st.isFinal = true)
    (hnd : ∀ p ∈ txs, NoDelete p.1) :
    FinalInv { cfg := cfg, cache := n.cache, height := 0, txIndex := 0 } (applyTxs cfg n.cache (n.height + 1) n.led txs).led t st ∧ (blockPairs cfg n txs).countP (reqOk t) = 0 :=
  applyTxs_fold cfg n.cache (n.height + 1) NoDelete
    (fun l zs => FinalInv { cfg := cfg, cache := n.cache, height := 0, txIndex := 0 } l t st ∧ zs.countP (reqOk t) = 0)
    (fun env l zs tx inv e1 e2 _ hg h => by
      obtain ⟨h1, h2⟩ := final_step env ⟨e2, congrArg Cfg.bxh e1⟩ l tx inv t st h.1 hf hg
      exact ⟨h1, (countP_snoc_false h2).trans h.2⟩)
    n.led ⟨hI, rfl⟩ txs hnd

theorem block_fresh_loop (cfg : Cfg) (n : Node) (txs : List (Tx × Bool)) (t : TxId)
    (hN : NewInv { cfg := cfg, cache := n.cache, height := 0, txIndex := 0 } n.led t) (hnd : ∀ p ∈ txs, NoDelete p.1)
    (hng : ∀ p ∈ txs, ∀ s i pk, p.1 = .ibtp s i pk → reqFor t p.1 = true → i.group = none) :
    FreshLoop { cfg := cfg, cache := n.cache, height := 0, txIndex := 0 } (n.height + 1) t
      (applyTxs cfg n.cache (n.height + 1) n.led txs).led (blockPairs cfg n txs) :=
  applyTxs_fold cfg n.cache (n.height + 1)
    (fun tx => NoDelete tx ∧ (∀ s i p, tx = .ibtp s i p → reqFor t tx = true → i.group = none))
    (FreshLoop { cfg := cfg, cache := n.cache, height := 0, txIndex := 0 } (n.height + 1) t)
    (fun env l zs tx inv e1 e2 e3 hg hΦ => by
      rw [← e3] at hΦ ⊢
      rcases hΦ with ⟨hN, hq⟩ | ⟨rec, hnf, hP, hA, hR⟩
      · rcases new_step env ⟨e2, congrArg Cfg.bxh e1⟩ l tx inv t hN hg.1 hg.2 with ⟨hN', hro⟩ | ⟨hP', s, i, p, st, htx, hnf, hrec⟩
        · exact Or.inl ⟨hN', (countP_snoc_false hro).trans hq⟩
        · subst htx
          exact Or.inr ⟨_, hnf, hP', accepted_first hq s i p _ st, Or.inl hrec⟩
      · obtain ⟨h1, h2, h3⟩ := pair_step env ⟨e2, congrArg Cfg.bxh e1⟩ l tx inv t hP hg.1
        exact Or.inr ⟨rec, hnf, h1, accepted_append_false hA h2, recOrDone_step (fun r hr => (h3 r hr).1) hR⟩)
    n.led (Or.inl ⟨hN, rfl⟩) txs (fun p hp => ⟨hnd p hp, hng p hp⟩)

/-- the invariant of a block's loop for a transaction that was open (record `rec0`) when the block started: no request naming it is
accepted, its record is what it was until an accepted receipt makes its status final, and every accepted receipt for it does so -/
def OpenLoop (e0 : Env) (t : TxId) (rec0 : Rec) (l : Led) (zs : List (Tx × Rcpt)) : Prop :=
  PairInv e0 l t ∧ zs.countP (reqOk t) = 0 ∧ RecOrDone t rec0 l zs ∧
  ∀ p ∈ zs, C06.RespFor t p.1 → p.2.ok = true → ∃ st, st.isFinal = true ∧ l.getS (.txRec t) = some (.trec { rec0 with status := st })

theorem block_open_loop (cfg : Cfg) (n : Node) (txs : List (Tx × Bool)) (t : TxId) (rec0 : Rec)
    (hP : PairInv { cfg := cfg, cache := n.cache, height := 0, txIndex := 0 } n.led t) (hr : n.led.getS (.txRec t) = some (.trec rec0))
    (hnd : ∀ p ∈ txs, NoDelete p.1) :
    OpenLoop { cfg := cfg, cache := n.cache, height := 0, txIndex := 0 } t rec0 (applyTxs cfg n.cache (n.height + 1) n.led txs).led
      (blockPairs cfg n txs) :=
  applyTxs_fold cfg n.cache (n.height + 1) NoDelete (OpenLoop _ t rec0)
    (fun env l zs tx inv e1 e2 _ hg ⟨hP, hq, hR, hA⟩ => by
      obtain ⟨h1, h2, h3⟩ := pair_step env ⟨e2, congrArg Cfg.bxh e1⟩ l tx inv t hP hg
      refine ⟨h1, (countP_snoc_false h2).trans hq, recOrDone_step (fun r hr => (h3 r hr).1) hR, fun p hp hresp hok => ?_⟩
      rcases List.mem_append.mp hp with hp | hp
      · -- an earlier one: the record is final already, and stays
        obtain ⟨st, hf, hr⟩ := hA p hp hresp hok
        rcases (h3 _ hr).1 with h | ⟨_, hopen, _⟩
        · exact ⟨st, hf, h⟩
        · rw [hf] at hopen; cases hopen
      · -- this one: whatever status the record has, it is `rec0` up to the status
        cases List.mem_singleton.mp hp
        obtain ⟨x, hr⟩ : ∃ x, l.getS (.txRec t) = some (.trec { rec0 with status := x }) :=
          hR.elim (fun hr => ⟨rec0.status, hr⟩) (fun ⟨st, _, hr, _⟩ => ⟨st, hr⟩)
        exact (h3 _ hr).2 hresp hok)
    n.led ⟨hP, rfl, .inl hr, fun _ hp => nomatch hp⟩ txs hnd

/-- **a whole block keeps a final record as it is, provided the record is not on the timeout list of that block's height
when the timeout step runs** (the list bookkeeping of `setTimeoutList` is what has to guarantee that; the model driver
evaluates it on every generated block, evidence tag `model:listedfinal=…`) -/
theorem C04_block_final_stays (cfg : Cfg) (n : Node) (txs : List (Tx × Bool)) (t : TxId) (st : Status)
    (hI : FinalInv { cfg := cfg, cache := n.cache, height := 0, txIndex := 0 } n.led t st) (hf : st.isFinal = true)
    (hnd : ∀ p ∈ txs, ∀ sg args, p.1 ≠ .bvm sg "interchain" "DeleteInterchain" args)
    (hnl : TId.single t ∉ getTimeoutList
      (setTimeoutList cfg (applyTxs cfg n.cache (n.height + 1) n.led txs).led (n.height + 1) (txs.map (·.1))
        (applyTxs cfg n.cache (n.height + 1) n.led txs).rcpts) (n.height + 1)) :
    FinalInv { cfg := cfg, cache := (execBlock cfg n txs).1.cache, height := 0, txIndex := 0 } (execBlock cfg n txs).1.led t st := by
  obtain ⟨hA, -⟩ := block_final_loop cfg n txs t st hI hf hnd
  have hE := execBlock_ends cfg n txs
  rw [execBlock_cache]
  rw [execBlock_led] at hE ⊢
  rcases blockEnd_rec cfg _ _ _ _ t with e | ⟨hm, _⟩
  · exact hA.of_reads hE.svc hE.ic e
  · exact absurd hm hnl

/-- **a whole block keeps a final record final and off every list still to come** — without the hypothesis of `C04_block_final_stays`
about the lists: the transactions of the block put no one-to-one id on a list (`applyTxs_count_eq`), and the bookkeeping adds an id only
for a request with a successful receipt, which a request naming a finished transaction never gets -/
theorem C04_block_final_stays_unlisted (cfg : Cfg) (n : Node) (txs : List (Tx × Bool)) (t : TxId) (st : Status)
    (hI : FinalInvL { cfg := cfg, cache := n.cache, height := 0, txIndex := 0 } n.led n.height t st) (hf : st.isFinal = true)
    (hnd : ∀ p ∈ txs, ∀ sg args, p.1 ≠ .bvm sg "interchain" "DeleteInterchain" args) :
    FinalInvL { cfg := cfg, cache := (execBlock cfg n txs).1.cache, height := 0, txIndex := 0 } (execBlock cfg n txs).1.led
      (execBlock cfg n txs).1.height t st := by
  obtain ⟨hF, hq⟩ := block_final_loop cfg n txs t st hI.base hf hnd
  rw [execBlock_cache, execBlock_height]
  -- the bookkeeping adds it to no list, and it was on none
  exact (execBlock_ends cfg n txs).final hF fun d hd =>
    Nat.le_zero.mp (listCount_eq_zero.mpr (hI.unlisted d hd) ▸ execBlock_count_le_of_no_req cfg n txs d t hq)

/-- **the block in which a transaction becomes final takes it off the timeout list**: an open transaction whose record is final
after the block's transactions (a receipt for it was accepted in this block) is final and on no list still to come when the block
ends — so the timeout step can never touch it again (`C04_block_history_final_stays_unlisted` from there on).  The block is any
block without the unguarded `DeleteInterchain` whose bookkeeping is not abandoned (`abort`: a successful receipt without any
record, which the model driver reports as it reports `listedfinal`) -/
theorem C04_block_finalising_unlists (cfg : Cfg) (n : Node) (txs : List (Tx × Bool)) (t : TxId) (rec0 : Rec) (st : Status)
    (hO : OpenInv { cfg := cfg, cache := n.cache, height := 0, txIndex := 0 } n.led n.height t rec0)
    (hopen : rec0.status.isFinal = false)
    (hdst : (t.to.chain == cfg.bxh) = false)
    (hnd : ∀ p ∈ txs, ∀ sg args, p.1 ≠ .bvm sg "interchain" "DeleteInterchain" args)
    (hna : (((txs.map (·.1)).zip (applyTxs cfg n.cache (n.height + 1) n.led txs).rcpts).map
      (fun p => timeoutAct cfg (applyTxs cfg n.cache (n.height + 1) n.led txs).led (n.height + 1) p.1 p.2)).contains .abort = false)
    (hend : recStatus (applyTxs cfg n.cache (n.height + 1) n.led txs).led t = some st) (hf : st.isFinal = true) :
    FinalInvL { cfg := cfg, cache := (execBlock cfg n txs).1.cache, height := 0, txIndex := 0 } (execBlock cfg n txs).1.led
      (execBlock cfg n txs).1.height t st := by
  obtain ⟨hP, hq, hR, -⟩ := block_open_loop cfg n txs t rec0 hO.pair hO.recd hnd
  -- the record is final: a receipt of this block was accepted
  rcases hR with hr | ⟨st', hf', hr, hresp⟩
  · rw [recStatus, hr] at hend; cases hend; rw [hopen] at hf; cases hf
  · rw [recStatus, hr] at hend; cases hend
    rw [execBlock_cache, execBlock_height]
    exact execBlock_answered cfg n txs hP hr hf hresp hdst hna (fun d hd => by rw [blockActs, adds_none hq]; exact hO.cnt d hd)
      fun d hd hp => hO.only d hd (listedAt_iff_count.mpr (Nat.lt_of_lt_of_le hp (execBlock_count_le_of_no_req cfg n txs d t hq)))

/-- **a block that accepts no receipt for an open transaction keeps it open, listed at most once and only under the deadline its
record names** — the record stays as it is or, when the block's height is that deadline, the timeout step moves it to
BEGIN_ROLLBACK (recorded under this height; nothing of it is on a list still to come) -/
theorem C04_block_open_stays (cfg : Cfg) (n : Node) (txs : List (Tx × Bool)) (t : TxId) (rec0 : Rec)
    (hO : OpenInv { cfg := cfg, cache := n.cache, height := 0, txIndex := 0 } n.led n.height t rec0)
    (hnd : ∀ p ∈ txs, ∀ sg args, p.1 ≠ .bvm sg "interchain" "DeleteInterchain" args)
    (hsame : (applyTxs cfg n.cache (n.height + 1) n.led txs).led.getS (.txRec t) = some (.trec rec0)) :
    ∃ rec', OpenInv { cfg := cfg, cache := (execBlock cfg n txs).1.cache, height := 0, txIndex := 0 } (execBlock cfg n txs).1.led
        (execBlock cfg n txs).1.height t rec' ∧
      (rec' = rec0 ∨ (rec0.height = n.height + 1 ∧ rec' = { height := n.height + 1, status := .beginRollback })) := by
  obtain ⟨hP, hq, -, -⟩ := block_open_loop cfg n txs t rec0 hO.pair hO.recd hnd
  -- the block adds `t` to no list: what held of the lists before holds after
  have hcnt := fun d => execBlock_count_le_of_no_req cfg n txs d t hq
  rw [execBlock_cache, execBlock_height]
  exact (execBlock_ends cfg n txs).stillOpen hP hsame (fun d hd => Nat.le_trans (hcnt d) (hO.cnt d hd))
    fun d hd hp => hO.only d hd (listedAt_iff_count.mpr (Nat.lt_of_lt_of_le hp (hcnt d)))

/-- **the block in which a new transaction may be accepted**: from a transaction that is new (no record, the pair's counter below its
index, on no list still to come) every block leads to one of three states — still new and unlisted; open (`OpenInv`: begun by the one
accepted request of this block, listed at most once and only under the deadline that request and this height give); or final
already (request and receipt in one block) and on no list still to come -/
theorem C04_block_fresh_step (cfg : Cfg) (n : Node) (txs : List (Tx × Bool)) (t : TxId)
    (hN : NewInv { cfg := cfg, cache := n.cache, height := 0, txIndex := 0 } n.led t)
    (hul : ∀ d, n.height < d → listCount n.led d t = 0)
    (hdst : (t.to.chain == cfg.bxh) = false)
    (hnd : ∀ p ∈ txs, ∀ sg args, p.1 ≠ .bvm sg "interchain" "DeleteInterchain" args)
    (hng : ∀ p ∈ txs, ∀ s i pk, p.1 = .ibtp s i pk → reqFor t p.1 = true → i.group = none)
    (hna : NoAbort cfg n txs) :
    (NewInv { cfg := cfg, cache := (execBlock cfg n txs).1.cache, height := 0, txIndex := 0 } (execBlock cfg n txs).1.led t ∧
      ∀ d, (execBlock cfg n txs).1.height < d → listCount (execBlock cfg n txs).1.led d t = 0) ∨
    (∃ rec, OpenInv { cfg := cfg, cache := (execBlock cfg n txs).1.cache, height := 0, txIndex := 0 } (execBlock cfg n txs).1.led
      (execBlock cfg n txs).1.height t rec ∧ rec.status.isFinal = false) ∨
    (∃ st, FinalInvL { cfg := cfg, cache := (execBlock cfg n txs).1.cache, height := 0, txIndex := 0 } (execBlock cfg n txs).1.led
      (execBlock cfg n txs).1.height t st ∧ st.isFinal = true) := by
  -- the lists above the old height held nothing of `t`: afterwards they hold at most what the block adds
  have hcnt : ∀ d, n.height < d → listCount (execBlock cfg n txs).1.led d t ≤ (addsAt d (blockActs cfg n txs)).count t := fun d hd => by
    have := execBlock_count_le cfg n txs d t
    rwa [hul d hd, Nat.zero_add] at this
  have hE := execBlock_ends cfg n txs
  rw [execBlock_cache, execBlock_height]
  rcases block_fresh_loop cfg n txs t hN hnd hng with ⟨hNA, hq⟩ | ⟨rec, hnf, hP, hA, hR⟩
  · -- still new
    have hz : ∀ d, n.height < d → listCount (execBlock cfg n txs).1.led d t = 0 := fun d hd =>
      Nat.le_zero.mp (adds_none hq ▸ hcnt d hd)
    exact Or.inl ⟨hE.new hNA (hz _ (Nat.lt_succ_self _)), fun d hd => hz d (Nat.lt_of_succ_lt hd)⟩
  · -- begun in this block: listed at most once, and only where the accepted request put it
    have hc : ∀ d, n.height < d → listCount n.led d t + (addsAt d (blockActs cfg n txs)).count t ≤ 1 := fun d hd => by
      rw [hul d hd, Nat.zero_add]; exact Nat.le_trans (count_adds_le_countP cfg _ _ d t _) hA.1
    have ho : ∀ d, n.height < d → 0 < listCount (execBlock cfg n txs).1.led d t → d = rec.height := fun d hd hp =>
      accepted_add_deadline hA (Nat.lt_of_lt_of_le hp (hcnt d hd))
    rcases hR with hr | ⟨st, hf, hr, hresp⟩
    · obtain ⟨rec', hO, h⟩ := hE.stillOpen hP hr (fun d hd => Nat.le_trans (execBlock_count_le cfg n txs d t) (hc d hd)) ho
      refine Or.inr (Or.inl ⟨rec', hO, ?_⟩)
      rcases h with rfl | ⟨-, rfl⟩
      · exact hnf
      · rfl
    · -- answered in this block too
      exact Or.inr (Or.inr ⟨st, execBlock_answered cfg n txs hP hr hf hresp hdst hna hc ho, hf⟩)

/-- **SUCCESS, FAILURE and ROLLBACK are final over every history of blocks** (any transactions, fees paid or not, timeouts in
between) — as long as the record is never on the list of the height whose timeout step runs, and nobody calls the unguarded
`DeleteInterchain` (an open finding of C17) -/
theorem C04_block_history_final_stays (cfg : Cfg) (blocks : List (List (Tx × Bool))) (n : Node) (t : TxId) (st : Status)
    (hI : FinalInv { cfg := cfg, cache := n.cache, height := 0, txIndex := 0 } n.led t st) (hf : st.isFinal = true)
    (hnd : ∀ b ∈ blocks, ∀ p ∈ b, ∀ sg args, p.1 ≠ .bvm sg "interchain" "DeleteInterchain" args)
    (hnl : ∀ k (hk : k < blocks.length), NotListedAtStep cfg (runBlocks cfg n (blocks.take k)) blocks[k] t) :
    recStatus (runBlocks cfg n blocks).led t = some st :=
  (runBlocks_inv cfg (fun n => FinalInv { cfg := cfg, cache := n.cache, height := 0, txIndex := 0 } n.led t st)
    (fun n b => (∀ p ∈ b, ∀ sg args, p.1 ≠ .bvm sg "interchain" "DeleteInterchain" args) ∧ NotListedAtStep cfg n b t)
    (fun n b hP hB => C04_block_final_stays cfg n b t st hP hf hB.1 hB.2) blocks n hI
    fun k hk => ⟨hnd _ (List.getElem_mem hk), hnl k hk⟩).status

/-- **SUCCESS, FAILURE and ROLLBACK are final over every history of blocks** (any transactions, fees paid or not, timeouts in
between): a final record that is on no list of a height still to come stays what it is — the only assumption left about the
history is that nobody calls the unguarded `DeleteInterchain` (an open finding of C17) -/
theorem C04_block_history_final_stays_unlisted (cfg : Cfg) (blocks : List (List (Tx × Bool))) (n : Node) (t : TxId) (st : Status)
    (hI : FinalInvL { cfg := cfg, cache := n.cache, height := 0, txIndex := 0 } n.led n.height t st) (hf : st.isFinal = true)
    (hnd : ∀ b ∈ blocks, ∀ p ∈ b, ∀ sg args, p.1 ≠ .bvm sg "interchain" "DeleteInterchain" args) :
    recStatus (runBlocks cfg n blocks).led t = some st ∧
    ∀ d, (runBlocks cfg n blocks).height < d → ¬ listedAt (runBlocks cfg n blocks).led d t :=
  have := runBlocks_inv_mem cfg (fun n => FinalInvL { cfg := cfg, cache := n.cache, height := 0, txIndex := 0 } n.led n.height t st) _
    (fun n b hP hB => C04_block_final_stays_unlisted cfg n b t st hP hf hB) blocks n hI hnd
  ⟨this.base.status, this.unlisted⟩

/-- non-vacuity: a SUCCESS record of the pair c1:s1 → c2:s1 whose counter has passed its index, no timeout list stored -/
example :
    let svc : Svc := { ordered := true, blacklist := [], available := true }
    let s11 : SvcId := { bxh := "1356", chain := "c1", sid := "s1" }
    let s21 : SvcId := { bxh := "1356", chain := "c2", sid := "s1" }
    let t : TxId := { frm := s11, to := s21, index := 1 }
    let l : Led := { store := [(.svc "c1" "s1", .svc svc), (.svc "c2" "s1", .svc svc), (.txRec t, .trec { height := 9, status := .success }),
      (.ic s11, .ic { ic := [(s21, 1)] })] }
    FinalInvL { cfg := {}, cache := [], height := 0, txIndex := 0 } l 7 t .success := by
  intro svc s11 s21 t l
  refine ⟨⟨(OrderedDst.of_stored (sv := svc) (by decide) (by decide) rfl rfl rfl), by decide, by decide⟩, ?_⟩
  · rintro d _ ⟨lst, e, _⟩
    simp [l, Led.getS, KV.get] at e

/-- what the block theorems know of a one-to-one transaction `t` of a local, index-checked pair at a block boundary: it is **fresh**
(not accepted yet: no record, the pair's counter below its index, on no list still to come), **opened** (its record is not final; on
the lists still to come it occurs at most once, only under its recorded deadline) or **final** (and on no list still to come) -/
inductive Tracked (cfg : Cfg) (n : Node) (t : TxId) : Prop
  | fresh : NewInv { cfg := cfg, cache := n.cache, height := 0, txIndex := 0 } n.led t →
      (∀ d, n.height < d → listCount n.led d t = 0) → Tracked cfg n t
  | opened (rec0 : Rec) : OpenInv { cfg := cfg, cache := n.cache, height := 0, txIndex := 0 } n.led n.height t rec0 →
      rec0.status.isFinal = false → Tracked cfg n t
  | final (st : Status) : FinalInvL { cfg := cfg, cache := n.cache, height := 0, txIndex := 0 } n.led n.height t st →
      st.isFinal = true → Tracked cfg n t

/-- what is assumed of a block: nobody calls the unguarded `DeleteInterchain` (an open finding of C17), no request naming `t`
carries a Group (such a request begins a one-to-many child, which has no one-to-one record), the bookkeeping is not abandoned -/
structure BlockOk (cfg : Cfg) (n : Node) (txs : List (Tx × Bool)) (t : TxId) : Prop where
  nodelete : ∀ p ∈ txs, ∀ sg args, p.1 ≠ .bvm sg "interchain" "DeleteInterchain" args
  nogroup : ∀ p ∈ txs, ∀ s i pk, p.1 = .ibtp s i pk → reqFor t p.1 = true → i.group = none
  noabort : NoAbort cfg n txs

/-- **every block keeps a tracked transaction tracked**: a fresh one stays fresh, is opened by the one request the block accepts for
it, or is begun and answered in the same block; an open one stays open (possibly timed out: BEGIN_ROLLBACK) or becomes final and
leaves its list in the same block; a final one stays final and unlisted -/
theorem C04_block_tracked (cfg : Cfg) (n : Node) (txs : List (Tx × Bool)) (t : TxId)
    (hT : Tracked cfg n t) (hdst : (t.to.chain == cfg.bxh) = false) (hB : BlockOk cfg n txs t) :
    Tracked cfg (execBlock cfg n txs).1 t := by
  obtain ⟨hnd, hng, hna⟩ := hB
  cases hT with
  | fresh hN hul =>
    rcases C04_block_fresh_step cfg n txs t hN hul hdst hnd hng hna with ⟨h1, h2⟩ | ⟨rec, h1, h2⟩ | ⟨st, h1, h2⟩
    · exact .fresh h1 h2
    · exact .opened rec h1 h2
    · exact .final st h1 h2
  | final st hF hf => exact .final st (C04_block_final_stays_unlisted cfg n txs t st hF hf hnd) hf
  | opened rec0 hO hopen =>
    rcases (block_open_loop cfg n txs t rec0 hO.pair hO.recd hnd).2.2.1 with hsame | ⟨st', hf', hfin, -⟩
    · obtain ⟨rec', hO', hcases⟩ := C04_block_open_stays cfg n txs t rec0 hO hnd hsame
      refine .opened rec' hO' ?_
      rcases hcases with rfl | ⟨-, rfl⟩
      · exact hopen
      · rfl
    · exact .final st' (C04_block_finalising_unlists cfg n txs t rec0 st' hO hopen hdst hnd hna (by rw [recStatus, hfin]) hf') hf'

/-- **… and so does every history of blocks** -/
theorem C04_history_tracked (cfg : Cfg) (blocks : List (List (Tx × Bool))) (n : Node) (t : TxId)
    (hT : Tracked cfg n t) (hdst : (t.to.chain == cfg.bxh) = false)
    (hB : ∀ k (hk : k < blocks.length), BlockOk cfg (runBlocks cfg n (blocks.take k)) blocks[k] t) :
    Tracked cfg (runBlocks cfg n blocks) t :=
  runBlocks_inv cfg (Tracked cfg · t) (BlockOk cfg · · t) (fun n b hT hB => C04_block_tracked cfg n b t hT hdst hB) blocks n hT hB

theorem Tracked.final_of_status {cfg : Cfg} {n : Node} {t : TxId} {st : Status} (hT : Tracked cfg n t)
    (hst : recStatus n.led t = some st) (hf : st.isFinal = true) :
    FinalInvL { cfg := cfg, cache := n.cache, height := 0, txIndex := 0 } n.led n.height t st := by
  cases hT with
  | fresh hN _ => rw [recStatus, hN.norec] at hst; cases hst
  | opened rec0 hO hopen => rw [recStatus, hO.recd] at hst; cases hst; rw [hopen] at hf; cases hf
  | final st' hF _ => cases hF.base.status.symm.trans hst; exact hF

/-- **SUCCESS, FAILURE and ROLLBACK are final — from the first block on**: start from a node on which `t` is fresh (a new chain: no
record, the pair's counter below the index, on no list), run any history of blocks (every block `BlockOk`): if `t`'s status is final
after the first `k` blocks, it is the same status after all of them.  The timeout mechanism, receipts of any kind, replays, other
transactions, fees that cannot be paid: nothing alters it -/
theorem C04_final_is_forever (cfg : Cfg) (blocks : List (List (Tx × Bool))) (n : Node) (t : TxId) (st : Status) (k : Nat)
    (hT : Tracked cfg n t) (hdst : (t.to.chain == cfg.bxh) = false)
    (hB : ∀ j (hj : j < blocks.length), BlockOk cfg (runBlocks cfg n (blocks.take j)) blocks[j] t)
    (hk : k ≤ blocks.length) (hst : recStatus (runBlocks cfg n (blocks.take k)).led t = some st) (hf : st.isFinal = true) :
    recStatus (runBlocks cfg n blocks).led t = some st := by
  -- after the first `k` blocks `t` is tracked, so — its status being final — final and unlisted …
  have hTk : Tracked cfg (runBlocks cfg n (blocks.take k)) t := by
    refine C04_history_tracked cfg (blocks.take k) n t hT hdst fun j hj => ?_
    have hj' : j < k := by rw [List.length_take] at hj; omega
    rw [List.take_take, List.getElem_take, Nat.min_eq_left (Nat.le_of_lt hj')]
    exact hB j (by omega)
  -- … and the remaining blocks keep it so
  have hrest : ∀ b ∈ blocks.drop k, ∀ p ∈ b, ∀ sg args, p.1 ≠ .bvm sg "interchain" "DeleteInterchain" args := fun b hb => by
    obtain ⟨j, hj, rfl⟩ := List.getElem_of_mem (List.mem_of_mem_drop hb)
    exact (hB j hj).nodelete
  rw [← List.take_append_drop k blocks, runBlocks_append]
  exact (C04_block_history_final_stays_unlisted cfg (blocks.drop k) _ t st (hTk.final_of_status hst hf) hf hrest).1

/-- non-vacuity: on a new chain (service records only) every transaction of an index-checked local pair is fresh — the starting point of
`C04_final_is_forever` -/
example (idx : Nat) (hidx : 0 < idx) :
    let svc : Svc := { ordered := true, blacklist := [], available := true }
    let s11 : SvcId := { bxh := "1356", chain := "c1", sid := "s1" }
    let s21 : SvcId := { bxh := "1356", chain := "c2", sid := "s1" }
    let n : Node := { height := 6, led := { store := [(.svc "c1" "s1", .svc svc), (.svc "c2" "s1", .svc svc)] } }
    Tracked {} n { frm := s11, to := s21, index := idx } := by
  intro svc s11 s21 n
  refine .fresh ⟨(OrderedDst.of_stored (sv := svc) rfl rfl rfl rfl rfl), rfl, ?_, ?_⟩ ?_
  · show reqCounter n.led s11 s21 < idx
    have : reqCounter n.led s11 s21 = 0 := by decide
    omega
  · simp [n, Led.getS, KV.get]
  · intro d _
    unfold listCount
    have : n.led.getS (.timeout d) = none := by simp [n, Led.getS, KV.get]
    rw [this]

/-- non-vacuity: request 1 of the pair c1:s1 → c2:s1, accepted at height 7 with T = 4 (BEGIN, deadline 11, on the list of 11 once), is
tracked as open at height 8 -/
example :
    let svc : Svc := { ordered := true, blacklist := [], available := true }
    let s11 : SvcId := { bxh := "1356", chain := "c1", sid := "s1" }
    let s21 : SvcId := { bxh := "1356", chain := "c2", sid := "s1" }
    let t : TxId := { frm := s11, to := s21, index := 1 }
    let n : Node := { height := 8, led := { store := [(.svc "c1" "s1", .svc svc), (.svc "c2" "s1", .svc svc),
      (.txRec t, .trec { height := 11, status := .begin }), (.ic s11, .ic { ic := [(s21, 1)] }), (.timeout 11, .tlist [some (.single t)])] } }
    Tracked {} n t := by
  intro svc s11 s21 t n
  have hnone : ∀ d, d ≠ 11 → n.led.getS (.timeout d) = none := by
    intro d hd
    simp [n, Led.getS, KV.get]
    intro e; exact hd e.symm
  refine .opened { height := 11, status := .begin } ⟨⟨(OrderedDst.of_stored (sv := svc) (by decide) (by decide) rfl rfl rfl), by decide, rfl⟩, by decide, ?_, ?_⟩ rfl
  · intro d _
    unfold listCount
    by_cases hd : d = 11
    · subst hd; decide
    · rw [hnone d hd]; exact Nat.zero_le _
  · rintro d _ ⟨lst, e, _⟩
    by_cases hd : d = 11
    · exact hd
    · rw [hnone d hd] at e; cases e

end Bxh.Props.C04
