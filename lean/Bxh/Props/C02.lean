import Bxh.Props.C07
import Bxh.Proofs.ExecFrame
import Bxh.Proofs.RouterLemmas
/-!
# C02 — IBTPs are accepted in index order, exactly once per ordered service pair
Theorems about `Bxh.Exec` (model of `InterchainManager.HandleIBTP`, `checkIBTP`, `ProcessIBTP` and
of `applyTransaction` around it): a rejected IBTP has no effect; the requests of an index-checked pair (`OrderedDst`) are accepted as
1, 2, 3, … over any history (`runIbtps`), and one transaction or the end of a block moves the pair's counter accordingly; an accepted
request is handed to its destination's pier; receipts come in index order, for begun transactions only.
-/
namespace Bxh.Props.C02
open Bxh Bxh.Exec

/-- the index gate accepts exactly the next index -/
theorem C02_index_check_exact (exp cur : Nat) : checkIndex exp cur = .ok () ↔ cur = exp :=
  checkIndex_ok_iff exp cur

/-- Full-strength clause: a rejected IBTP transaction (receipt FAILED) leaves counters, records and
delivery metadata unchanged: the contract store is untouched and no event is left behind. -/
def C02_rejected_no_effect : Prop :=
  ∀ (env : Env) (l : Led) (s : String) (i : Ibtp) (p : ProofKind) (inv : Option String),
    (applyTx env l (.ibtp s i p) inv).2.rcpt.ok = false →
    ¬ auditHole env (C07.start l) (.ibtp s i p) →
      (∀ k, (applyTx env l (.ibtp s i p) inv).1.getS k = l.getS k) ∧ (applyTx env l (.ibtp s i p) inv).2.events = []

theorem fee_step_frame (env : Env) (l : Led) (tx : Tx) (inv : Option String)
    (hst : (applyBxh env { l with journal := [], events := [] } tx inv).1 = { l with journal := [], events := [] }) :
    (applyTx env l tx inv).1.store = l.store ∧ (applyTx env l tx inv).2.events = [] := by
  have h := applyTx_outcome env l tx inv
  rw [show txStart l = { l with journal := [], events := [] } from rfl, hst] at h
  cases h with
  | paid x _ _ hout => rw [hout]; exact ⟨by rw [finalise_store, charge_store], ite_self _⟩
  | unpaid rc _ hout => rw [hout]; exact ⟨by rw [finalise_store, charge_store, revert_nil _ _ rfl], rfl⟩

/-- rejected by the proof / signature check ⇒ FAILED receipt and no effect -/
theorem C02_rejected_by_check_no_effect
    (env : Env) (l : Led) (s : String) (i : Ibtp) (p : ProofKind) (r : String) :
    (applyTx env l (.ibtp s i p) (some r)).2.rcpt.ok = false ∧
    (applyTx env l (.ibtp s i p) (some r)).1.store = l.store ∧
    (applyTx env l (.ibtp s i p) (some r)).2.events = [] :=
  ⟨applyTx_failed_of_error (e := r) rfl, fee_step_frame env l _ _ rfl⟩

/-- rejected by the interchain contract (wrong / duplicate / future index, unknown receipt,
unavailable source, illegal type, transaction-manager refusal …) ⇒ FAILED receipt and no effect -/
theorem C02_rejected_by_contract_no_effect
    (env : Env) (l : Led) (s : String) (i : Ibtp) (p : ProofKind) (e : String)
    (he : handleIBTP env { l with journal := [], events := [] } i = .error e) (hne : e ≠ "2080000!") :
    (applyTx env l (.ibtp s i p) none).2.rcpt.ok = false ∧
    (applyTx env l (.ibtp s i p) none).1.store = l.store ∧
    (applyTx env l (.ibtp s i p) none).2.events = [] := by
  -- of what the body can do with an IBTP, only handing back the ledger with an error is left
  cases applyBxh_body env (txStart l) (.ibtp s i p) none rfl with
  | kept _ hled hres => exact ⟨applyTx_failed_of_error hres, fee_step_frame env l _ _ hled⟩
  | ibtp _ _ _ _ htx hrun => cases htx; cases he.symm.trans hrun
  | hole _ _ _ _ htx herr => cases htx; cases he.symm.trans herr; exact absurd rfl hne
  | xfer _ _ _ htx => cases htx
  | bvm _ _ _ _ _ htx => cases htx

/-- an accepted request (not the destination hub's notice, which begins nothing) on an index-checked (non-batch) pair carries
exactly the next index -/
theorem C02_accept_needs_next_index (env : Env) (l : Led) (i : Ibtp) (ck : Checked)
    (h : checkIBTP env l i = .ok ck) (hreq : i.typ.isRequest = true) (hn : ck.notice = false) (hb : ck.isBatch = false) :
    i.index = KV.getD (getIC l ck.src).ic ck.dst 0 + 1 :=
  (checkIBTP_ok_request h hreq hn).2.1 hb

/-- **every destination's pier is handed exactly the delivery set of the block**: for every block the model executes, what the
interchain router (`classify`, behind both `PutBlockAndMeta` and `GetInterchainTxWrappers`) gives pier `d` as transactions is the
list `InterchainMeta.Counter[d]` — the same positions in the block, in the same order, each once, with its flags; a pier the
counter does not name gets none.  (The one-to-many notification map is read back from state; that it has one entry per chain is
the hypothesis `hm`.) -/
theorem C02_router_hands_each_pier_its_delivery_set (cfg : Cfg) (n : Node) (txs : List (Tx × Bool)) (d : String)
    (hm : Router.Keyed (execBlock cfg n txs).2.multiCounter) :
    (Router.deliver (execBlock cfg n txs).2 d).txs = KV.getD (execBlock cfg n txs).2.counter d [] := by
  rw [Router.deliver_spec _ (Router.applyTxs_counter_keyed ..) (Router.getTimeoutMap_keyed ..) hm]

-- non-vacuity: two destinations, one of them also told about a timeout
example :
    let o : BlockOut := { height := 9, rcpts := [], counter := [("c2", [⟨0, true, false⟩, ⟨2, true, false⟩]), ("c3", [⟨1, true, false⟩])],
                          timeoutCounter := [("c1", [.single ⟨⟨"1356", "c1", "s1"⟩, ⟨"1356", "c2", "s1"⟩, 4⟩])], multiCounter := [] }
    (Router.deliver o "c2").txs = [⟨0, true, false⟩, ⟨2, true, false⟩] ∧ (Router.deliver o "c3").txs = [⟨1, true, false⟩] ∧
    (Router.deliver o "c1").txs = [] ∧ (Router.deliver o "c1").timeouts.length = 1 ∧ Router.deliver o "c9" = {} := by decide +kernel

def s11 : SvcId := { bxh := "1356", chain := "c1", sid := "s1" }
def s21 : SvcId := { bxh := "1356", chain := "c2", sid := "s1" }
def okSvc : Svc := { ordered := true, blacklist := [], available := true }

def cexLed : Led :=
  { store := [(.svc "c1" "s1", .svc okSvc), (.svc "c2" "s1", .svc okSvc)], bal := [("poor", 0)] }

def cexEnv : Env := { cfg := {}, cache := [], height := 7, txIndex := 0 }

def cexReq : Ibtp := { frm := some s11, to := some s21, index := 1, typ := .interchain, timeout := 3, group := none }

/-- An IBTP that is processed and then cannot pay its fee: the receipt is FAILED ("fee"), the contract store is restored by the revert (the record and
the counters are gone) and nothing is announced.  Before the `fix:` commit "do not process the events of a
failed transaction" the interchain event survived the revert and the request was listed for `c2`
(corpus/exec/c02-fee-failed-listed.ops replays it on the real code). -/
theorem C02_fee_failed_not_listed :
    (applyTx cexEnv cexLed (.ibtp "poor" cexReq .ok) none).2.rcpt = { ok := false, ret := "fee" } ∧
    (applyTx cexEnv cexLed (.ibtp "poor" cexReq .ok) none).2.events = [] ∧
    (applyTx cexEnv cexLed (.ibtp "poor" cexReq .ok) none).1.getS (.txRec { frm := s11, to := s21, index := 1 }) = none ∧
    (applyTx cexEnv cexLed (.ibtp "poor" cexReq .ok) none).1.getS (.ic s11) = none := by
  decide +kernel

/-- the full-strength clause holds for every rejected IBTP transaction, whatever rejected it -/
theorem C02_rejected_no_effect_holds : C02_rejected_no_effect := by
  intro env l s i p inv hfail hh
  exact ⟨C07.C07_failed_tx_storage_unchanged env l _ inv hfail hh, C07.C07_failed_tx_not_listed env l _ inv hfail⟩

/-- run IBTPs through the interchain contract one after the other; a rejected one leaves the ledger as it was -/
def runIbtps (env : Env) (l : Led) (is : List Ibtp) : Led :=
  is.foldl (fun l i => match handleIBTP env l i with | .ok r => r.1 | .error _ => l) l

theorem runIbtps_cons (env : Env) (l : Led) (i : Ibtp) (rest : List Ibtp) :
    runIbtps env l (i :: rest) = runIbtps env (match handleIBTP env l i with | .ok r => r.1 | .error _ => l) rest := rfl

theorem runIbtps_inv (env : Env) (P : Led → Prop) (hstep : ∀ l i r, P l → handleIBTP env l i = .ok r → P r.1)
    (is : List Ibtp) (l : Led) (hP : P l) : P (runIbtps env l is) := by
  induction is generalizing l with
  | nil => exact hP
  | cons i rest ih =>
    rw [runIbtps_cons]
    cases hh : handleIBTP env l i with
    | error e => exact ih l hP
    | ok r => exact ih r.1 (hstep l i r hP hh)

/-- indices of the accepted requests of the ordered pair (s, d), in acceptance order (between two hubs the request handed back
with the destination hub's notice is no request of the pair: it begins nothing) -/
def acceptedReqs (env : Env) (s d : SvcId) : Led → List Ibtp → List Nat
  | _, [] => []
  | l, i :: rest =>
    match handleIBTP env l i with
    | .ok r => (if i.typ.isRequest = true ∧ i.frm = some s ∧ i.to = some d ∧ isNotification l s d i = some false then [i.index] else [])
        ++ acceptedReqs env s d r.1 rest
    | .error _ => acceptedReqs env s d l rest

theorem handleIBTP_ok_checked {env : Env} {l : Led} {i : Ibtp} {r : Led × String} (h : handleIBTP env l i = .ok r) :
    ∃ ck, checkIBTP env l i = .ok ck :=
  let ⟨ck, _, _, hck, _⟩ := handleIBTP_ok h; ⟨ck, hck⟩

theorem checkIBTP_ends {env : Env} {l : Led} {i : Ibtp} {ck : Checked} (h : checkIBTP env l i = .ok ck) :
    i.frm = some ck.src ∧ i.to = some ck.dst := ⟨(checkIBTP_ok h).1, (checkIBTP_ok h).2.1⟩

theorem checkIBTP_request_batch {env : Env} {l : Led} {i : Ibtp} {ck : Checked} (h : checkIBTP env l i = .ok ck)
    (hreq : i.typ.isRequest = true) (hn : ck.notice = false) : ck.isBatch = (checkTarget env l ck.src ck.dst).1 := by
  rw [(checkIBTP_ok_request h hreq hn).1]

/-- the destination is index-checked: a service of another BitXHub, or a local, non-hub destination whose service record (if
any) is an ordered one -/
def OrderedDst (env : Env) (l : Led) (d : SvcId) : Prop :=
  isLocal env d = false ∨
  (isLocal env d = true ∧ (d.chain == d.bxh) = false ∧ env.cache = [] ∧
    ∀ sv, l.getS (.svc d.chain d.sid) = some (.svc sv) → sv.ordered = true)

theorem OrderedDst.of_stored {env : Env} {l : Led} {d : SvcId} {sv : Svc} (h1 : isLocal env d = true) (h2 : (d.chain == d.bxh) = false)
    (h3 : env.cache = []) (h4 : l.getS (.svc d.chain d.sid) = some (.svc sv)) (h5 : sv.ordered = true) : OrderedDst env l d :=
  .inr ⟨h1, h2, h3, fun _ h => by cases h4.symm.trans h; exact h5⟩

theorem OrderedDst.mono {env : Env} {l l' : Led} {d : SvcId} (h : OrderedDst env l d)
    (hsvc : ∀ c sid, l'.getS (.svc c sid) = l.getS (.svc c sid)) : OrderedDst env l' d := by
  rcases h with h | ⟨h1, h2, h3, h4⟩
  · exact Or.inl h
  · exact Or.inr ⟨h1, h2, h3, fun sv hs => h4 sv (by rw [← hsvc]; exact hs)⟩

theorem orderedDst_not_batch {env : Env} {l : Led} {i : Ibtp} {ck : Checked} (hd : OrderedDst env l ck.dst)
    (h : checkIBTP env l i = .ok ck) (hreq : i.typ.isRequest = true) (hn : ck.notice = false) : ck.isBatch = false := by
  rw [checkIBTP_request_batch h hreq hn]
  unfold checkTarget
  rcases hd with hrem | ⟨hloc, hhub, hcache, hord⟩
  · simp [hrem]
  simp only [hloc, hhub, if_true, Bool.false_eq_true, if_false]
  unfold getSvc
  rw [hcache]
  simp only [KV.get]
  cases hs : l.getS (.svc ck.dst.chain ck.dst.sid) with
  | none => rfl
  | some v =>
    cases v with
    | svc sv =>
      simp only
      split
      · rfl
      · split
        · rfl
        · simp [hord sv hs]
    | _ => rfl

theorem orderedDst_next_index {env : Env} {l : Led} {i : Ibtp} {ck : Checked} (hd : OrderedDst env l ck.dst)
    (h : checkIBTP env l i = .ok ck) (hreq : i.typ.isRequest = true) (hn : ck.notice = false) :
    i.index = reqCounter l ck.src ck.dst + 1 :=
  C02_accept_needs_next_index env l i ck h hreq hn (orderedDst_not_batch hd h hreq hn)

theorem handleIBTP_pair_counter {env : Env} {l : Led} {i : Ibtp} {r : Led × String} (s d : SvcId) (hd : OrderedDst env l d)
    (h : handleIBTP env l i = .ok r) :
    if i.typ.isRequest = true ∧ i.frm = some s ∧ i.to = some d ∧ isNotification l s d i = some false
    then i.index = reqCounter l s d + 1 ∧ reqCounter r.1 s d = reqCounter l s d + 1
    else reqCounter r.1 s d = reqCounter l s d := by
  obtain ⟨ck, hck⟩ := handleIBTP_ok_checked h
  obtain ⟨hfrm, hto, -, hnot, -⟩ := checkIBTP_ok hck
  rw [handleIBTP_reqCounter hck h s d]
  -- `hm` holds iff `ProcessIBTP` takes its request side for this pair
  by_cases hm : i.typ.isRequest = true ∧ i.frm = some s ∧ i.to = some d ∧ isNotification l s d i = some false
  · rw [if_pos hm]
    obtain ⟨hreq, hs, hdd, hn⟩ := hm
    obtain rfl : ck.src = s := Option.some.inj (hfrm.symm.trans hs)
    obtain rfl : ck.dst = d := Option.some.inj (hto.symm.trans hdd)
    have hnn : ck.notice = false := Option.some.inj (hnot.symm.trans hn)
    rw [if_pos ⟨by rw [hreq, hnn]; rfl, rfl, rfl⟩]
    exact ⟨orderedDst_next_index hd hck hreq hnn, rfl⟩
  · rw [if_neg hm, if_neg]
    rintro ⟨hb, rfl, rfl⟩
    rw [Bool.and_eq_true, Bool.not_eq_true'] at hb
    exact hm ⟨hb.1, hfrm, hto, hb.2 ▸ hnot⟩

/-- **requests of an index-checked ordered pair are accepted as 1, 2, 3, … with no gap and no repeat,
over any history of IBTPs** (requests and receipts of this and of every other pair, valid or not,
in any interleaving): the accepted indices of the pair are exactly the consecutive numbers after
the counter the history started with, and the counter ends at the start value plus their number -/
theorem C02_history_requests_consecutive (env : Env) (s d : SvcId) (is : List Ibtp) (l : Led)
    (hd : OrderedDst env l d) :
    acceptedReqs env s d l is = List.range' (reqCounter l s d + 1) (acceptedReqs env s d l is).length ∧
    reqCounter (runIbtps env l is) s d = reqCounter l s d + (acceptedReqs env s d l is).length := by
  induction is generalizing l with
  | nil => exact ⟨rfl, rfl⟩
  | cons i rest ih =>
    unfold acceptedReqs
    rw [runIbtps_cons]
    cases hh : handleIBTP env l i with
    | error e => exact ih l hd
    | ok r =>
      obtain ⟨ih1, ih2⟩ := ih r.1 (hd.mono (fun c sid => handleIBTP_svc_frame hh c sid))
      have hstep := handleIBTP_pair_counter s d hd hh
      dsimp only
      split
      · rename_i hm
        rw [if_pos hm] at hstep
        rw [hstep.2] at ih1 ih2
        rw [List.singleton_append, List.length_cons, List.range'_succ, hstep.1, ← ih1, ih2]
        exact ⟨rfl, by omega⟩
      · rename_i hm
        rw [if_neg hm] at hstep
        rw [hstep] at ih1 ih2
        exact ⟨ih1, ih2⟩

/-- non-vacuity: request 1, a replay of 1, request 3 (a gap), request 2 — accepted: 1 and 2 -/
example :
    let svc : Svc := { ordered := true, blacklist := [], available := true }
    let l : Led := { store := [(.svc "c1" "s1", .svc svc), (.svc "c2" "s1", .svc svc)] }
    let env : Env := { cfg := {}, cache := [], height := 7, txIndex := 0 }
    let rq (n : Nat) : Ibtp := { frm := some s11, to := some s21, index := n, typ := .interchain, timeout := 0, group := none }
    acceptedReqs env s11 s21 l [rq 1, rq 1, rq 3, rq 2] = [1, 2] := by decide +kernel

theorem orderedDst_env {env env' : Env} {l : Led} {d : SvcId} (he : SameHub env env') (h : OrderedDst env l d) :
    OrderedDst env' l d := by
  rcases h with h | ⟨h1, h2, h3, h4⟩
  · exact Or.inl (by unfold isLocal at *; rw [he.2]; exact h)
  · exact Or.inr ⟨by unfold isLocal at *; rw [he.2]; exact h1, h2, by rw [he.1]; exact h3, h4⟩

theorem applyBvm_ic_frame {env : Env} {l : Led} {c m : String} {args : List Arg} {r : Led × String}
    (e : applyBvm env l c m args = .ok r) (hnd : ¬ (c = "interchain" ∧ m = "DeleteInterchain")) (x : SvcId) :
    r.1.getS (.ic x) = l.getS (.ic x) := by
  rcases applyBvm_ok e with h | ⟨hc, hm, _⟩
  · rw [h]
  · exact absurd ⟨hc, hm⟩ hnd

/-- **one transaction of a block and the request counter of an index-checked pair**: whatever the transaction is (IBTP of this or
another pair, transfer, contract call; valid or not; fee paid or not, in which case everything is reverted), the counter of
the pair (s, d) either stays or grows by exactly one — and it grows only by a request of that very pair that carries exactly
the next index.  Excluded: a direct `DeleteInterchain` call, which resets the counters (the recorded C17 finding). -/
theorem C02_tx_counter_step (env : Env) (l : Led) (tx : Tx) (inv : Option String) (s d : SvcId)
    (hd : OrderedDst env l d) (hnd : ∀ sg args, tx ≠ .bvm sg "interchain" "DeleteInterchain" args) :
    reqCounter (applyTx env l tx inv).1 s d = reqCounter l s d ∨
    (reqCounter (applyTx env l tx inv).1 s d = reqCounter l s d + 1 ∧
      ∃ sg i p, tx = .ibtp sg i p ∧ i.typ.isRequest = true ∧ i.frm = some s ∧ i.to = some d ∧ i.index = reqCounter l s d + 1) := by
  have hd0 : OrderedDst env (txStart l) d := hd.mono (fun _ _ => rfl)
  have hc0 : reqCounter (txStart l) s d = reqCounter l s d := reqCounter_congr (fun x => txStart_getS l _) s d
  cases applyTx_effect env l tx inv with
  | nothing hget => left; rw [reqCounter_congr (fun x => hget _) s d, hc0]
  | bvm sg c m args r htx hrun hget =>
    left
    have hn : ¬ (c = "interchain" ∧ m = "DeleteInterchain") := by
      rintro ⟨rfl, rfl⟩; exact hnd sg args htx
    rw [reqCounter_congr (fun x => hget _) s d, reqCounter_congr (fun x => applyBvm_ic_frame hrun hn x) s d, hc0]
  | ibtp sg i p env' r htx hub _ hrun hget =>
    have hstep := handleIBTP_pair_counter s d (orderedDst_env hub hd0) hrun
    rw [reqCounter_congr (fun x => hget _) s d, ← hc0]
    split at hstep
    · rename_i hm
      exact .inr ⟨hstep.2, sg, i, p, htx, hm.1, hm.2.1, hm.2.2.1, hstep.1⟩
    · exact .inl hstep

/-- the end of a block (timeout bookkeeping, timeout step) leaves every interchain counter alone -/
theorem C02_timeout_steps_keep_counters (cfg : Cfg) (l : Led) (h : Nat) (txs : List Tx) (rcpts : List Rcpt) (s d : SvcId) :
    reqCounter (blockEnd cfg l h txs rcpts) s d = reqCounter l s d :=
  reqCounter_congr (fun _ => blockEnd_getS cfg l h txs rcpts) s d

def destPier (env : Env) (d : SvcId) : String := if isLocal env d then d.chain else unionPier

@[simp] theorem events_setS (l : Led) (k : Key) (v : Option Val) : (l.setS k v).events = l.events := rfl
@[simp] theorem events_addS (l : Led) (k : Key) (v : Val) : (l.addS k v).events = l.events := rfl
@[simp] theorem events_post (l : Led) (e : Ev) : (l.post e).events = l.events ++ [e] := rfl

theorem events_setIC (l : Led) (s : SvcId) (i : IC) : (setIC l s i).events = l.events := rfl

theorem events_setDestIC (l : Led) (f t : SvcId) (n : Nat) (ic : IC) : (setDestIC l f t n ic).events = l.events := rfl

theorem beginTransaction_fresh_change {env : Env} {l : Led} {i : Ibtp} {ck : Checked} {r : Led × StatusChange}
    (e : beginTransaction env l i ck = .ok r) (hg : i.group = none ∨ ck.src.bxh ≠ ck.dst.bxh)
    (hfresh : ck.src.bxh = ck.dst.bxh ∨ l.getS (.txRec { frm := ck.src, to := ck.dst, index := i.index }) = none) :
    r.2.prev = none ∧ (r.2.cur = .begin ∨ r.2.cur = .beginFailure) ∧ r.2.isFailChild = false := by
  obtain ⟨l', c⟩ := r
  -- both one-to-one ways announce the change of a fresh record
  have begun : c = { prev := none, cur := if ck.targetErr then .beginFailure else .begin } →
      c.prev = none ∧ (c.cur = .begin ∨ c.cur = .beginFailure) ∧ c.isFailChild = false := by
    rintro rfl
    refine ⟨rfl, ?_, rfl⟩
    cases ck.targetErr
    · exact .inl rfl
    · exact .inr rfl
  rcases beginTransaction_ok e with ⟨hb, h0⟩ | ⟨_, _, _, h0⟩ | ⟨hb, g, hgs, _⟩
  · rcases tmBeginInter_ok h0 with ⟨_, _, h1⟩ | ⟨rec, _, hrec, _⟩
    · exact begun h1
    · rw [hfresh.resolve_left hb] at hrec; cases hrec
  · exact begun h0
  · rcases hg with hg | hg
    · rw [hg] at hgs; cases hgs
    · exact absurd hb hg

/-- **an accepted one-to-one request is handed to its destination in the block that accepted it**: the interchain event of the
transaction names the destination's pier — the destination appchain, or the union pier for a service of another BitXHub — with the
batch flag (the executor turns the event into the block's delivery counter at the transaction's position, `counterOf`, and the
router hands each pier its entries: `C02_router_hands_each_pier_its_delivery_set`) -/
theorem C02_accepted_request_is_handed_to_its_destination (env : Env) (l : Led) (i : Ibtp) (ck : Checked) (r : Led × String)
    (hck : checkIBTP env l i = .ok ck) (h : handleIBTP env l i = .ok r) (hreq : i.typ.isRequest = true)
    (hg : i.group = none ∨ ck.src.bxh ≠ ck.dst.bxh)
    (hfresh : ck.src.bxh = ck.dst.bxh ∨ l.getS (.txRec { frm := ck.src, to := ck.dst, index := i.index }) = none) :
    ∃ m, Ev.interchain m ∈ r.1.events ∧ KV.get m (destPier env ck.dst) = some ck.isBatch := by
  obtain ⟨ck', l1, c, hck', hb, p, hp, -, hl⟩ := handleIBTP_ok h
  cases hck.symm.trans hck'
  rcases hb with ⟨-, hr⟩ | ⟨hq, -⟩
  · obtain ⟨hp0, hc, hfc⟩ := beginTransaction_fresh_change hr hg hfresh
    -- a fresh BEGIN / BEGIN_FAILURE notifies the destination side
    have hd : (notifyFlags c).2 = true := by
      unfold notifyFlags
      rw [hp0]
      rcases hc with hc | hc <;> rw [hc] <;> rfl
    -- the notification posts the event that names the pier; what follows it only writes and posts
    obtain ⟨-, l2, m, e, -, -, hm⟩ := notifySrcDst_ok env l1 ck.src ck.dst c ck.isBatch
    have hw : Writes [.ic, .idxReq, .idxRcpt] (notifySrcDst env l1 ck.src ck.dst c ck.isBatch) r.1 := by
      have := hp ▸ processIBTP_writes _ i ck c
      rcases hl with e' | e' <;> rw [e']
      · exact this
      · exact (this.post _).post _
    obtain ⟨es, he⟩ := hw.steps.events_prefix
    refine ⟨m, ?_, (hm hd).resolve_right (fun h => by rw [hfc] at h; cases h.2)⟩
    rw [he, e]; exact List.mem_append_left _ (List.mem_append_right _ (.head _))
  · rw [hreq] at hq; cases hq

-- non-vacuity: with hub 9999 registered, a request to a service over there is accepted and its event names the union pier;
-- a request to a local service names that service's chain
example :
    let svc : Svc := { ordered := true, blacklist := [], available := true }
    let l : Led := { store := [(.svc "c1" "s1", .svc svc), (.svc "c2" "s1", .svc svc)] }
    let env : Env := { cfg := { hubs := ["9999"] }, cache := [], height := 12, txIndex := 0 }
    let s11 : SvcId := { bxh := "1356", chain := "c1", sid := "s1" }
    let rq (d : SvcId) : Ibtp := { frm := some s11, to := some d, index := 1, typ := .interchain, timeout := 3, group := none }
    let named (x : Except String (Led × String)) : List (List (String × Bool)) := match x with
      | .ok r => r.1.events.map (fun e => match e with | .interchain m => m | .audit => [])
      | .error _ => []
    named (handleIBTP env l (rq { bxh := "9999", chain := "c5", sid := "s1" })) = [[("default_union_pier_id", false)]] ∧
    named (handleIBTP env l (rq { bxh := "1356", chain := "c2", sid := "s1" })) = [[("c2", false)]] := by decide +kernel

/-- **an accepted receipt carries exactly the next receipt index of its pair** — always: there is no batch exemption on the
receipt side -/
theorem C02_receipt_needs_next_index (env : Env) (l : Led) (i : Ibtp) (ck : Checked)
    (h : checkIBTP env l i = .ok ck) (hresp : i.typ.isResponse = true) :
    i.index = KV.getD (getIC l ck.src).rc ck.dst 0 + 1 :=
  (checkIBTP_ok_response h (.inl hresp)).2

/-- **a receipt is accepted only for a transaction that was begun**: there is a one-to-one record or a group entry for its id -/
theorem C02_receipt_needs_begun_transaction (env : Env) (l : Led) (i : Ibtp) (ck : Checked) (r : Led × String)
    (hck : checkIBTP env l i = .ok ck) (h : handleIBTP env l i = .ok r) (hresp : i.typ.isResponse = true) :
    (l.getS (.txRec { frm := ck.src, to := ck.dst, index := i.index })).isSome = true ∨
    (l.getS (.child { frm := ck.src, to := ck.dst, index := i.index })).isSome = true := by
  obtain ⟨ck', l1, c, hck', hstage, _⟩ := handleIBTP_ok h
  cases hck.symm.trans hck'
  rcases hstage with ⟨hreq, _⟩ | ⟨_, _, hrep⟩
  · rw [IType.isRequest_of_isResponse hresp] at hreq; cases hreq
  · rcases tmReport_ok hrep with ⟨_, _, hrec, _⟩ | ⟨_, _, _, _, _, hch, _⟩
    · left; rw [hrec]; rfl
    · right; rw [hch]; rfl

end Bxh.Props.C02
