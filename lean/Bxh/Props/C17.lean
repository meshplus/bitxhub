import Bxh.Model.Dispatch
/-!
# C17 — internal and privileged entry points reject unauthorised callers

The method table `Bxh.Gen.contractMethods` (every exported method of every registered contract,
with the permission calls found in its body) and `Bxh.Gen.stubMethods` are regenerated from /repo
on every run; the table theorems below are re-checked against them by `decide`.

What is proved: (1) the dispatcher never resolves a method promoted from the Stub toolbox, and
everything it resolves returns a `*boltvm.Response`; (2) every entry point that the property names
as contract-to-contract only carries, in the current source, a caller gate that admits specific
addresses only (`PermissionSpecific` alone, or `checkCurrentCaller`) — except the three recorded
findings, which are stated as theorems too; (3) the permission gate's decision function: a
specific-only gate admits exactly the listed addresses, so an external account (not a contract
address) is refused.  That the listed addresses are contract addresses, and everything behind the
gate, is decided on the real node by the correspondence run (every method called directly by
accounts of every role, state dumps before and after).
-/
namespace Bxh.Props.C17
open Bxh.Gen Bxh.Dispatch

/-- contract-to-contract entry points named by the property (Go type name, method) -/
def internalEntries : List (String × String) := [
  ("TransactionManager", "Begin"), ("TransactionManager", "BeginMultiTXs"), ("TransactionManager", "BeginInterBitXHub"),
  ("TransactionManager", "Report"),
  ("Governance", "SubmitProposal"), ("Governance", "LockLowPriorityProposal"), ("Governance", "UnLockLowPriorityProposal"),
  ("Governance", "EndObjProposal"), ("Governance", "UpdateAvailableElectorateNum"),
  ("AppchainManager", "Manage"), ("AppchainManager", "PauseAppchain"), ("AppchainManager", "UnPauseAppchain"),
  ("ServiceManager", "Manage"), ("ServiceManager", "UnPauseChainService"), ("ServiceManager", "RecordInvokeService"),
  ("RuleManager", "Manage"), ("RuleManager", "ClearRule"), ("RuleManager", "RegisterRuleFirst"),
  ("RoleManager", "Manage"), ("RoleManager", "UpdateAppchainAdmin"), ("RoleManager", "FreeAccount"), ("RoleManager", "OccupyAccount"),
  ("RoleManager", "PauseAuditAdmin"), ("RoleManager", "PauseAuditAdminBinding"), ("RoleManager", "RestoreAuditAdminBinding"),
  ("NodeManager", "Manage"), ("NodeManager", "ManageBindNode"), ("NodeManager", "BindNode"), ("NodeManager", "UnbindNode"),
  ("DappManager", "Manage"), ("GovStrategy", "Manage"), ("GovStrategy", "UpdateProposalStrategyByRolesChange")]

/-- entry points of the same kind whose body has no caller gate in its own text; the first two
delegate to a helper that checks the caller (decided dynamically), the last three are the
recorded findings -/
def ungatedEntries : List (String × String) := [
  ("ServiceManager", "PauseChainService"), ("ServiceManager", "ClearChainService"),
  ("InterchainManager", "Register"), ("InterchainManager", "DeleteInterchain"), ("Governance", "ZeroPermission")]

def isSpecificOnlyGate : Guard → Bool
  | .perm ps _ => ps == ["PermissionSpecific"]
  | .currentCaller => true
  | .other _ => false

def gated (tbl : List MInfo) (e : String × String) : Bool :=
  match tbl.find? (fun m => m.contract == e.1 && m.name == e.2) with
  | some m => m.declared && m.guards.any isSpecificOnlyGate
  | none => false

/-- the form in which the table theorems are evaluated: all entries of one contract share one pass over the table (the kernel
remembers what `tbl.filter (·.contract == c)` is) and a name is compared with the rows of its contract only; comparing strings is
what is slow in the kernel -/
theorem gated_eq (tbl : List MInfo) : gated tbl = fun (c, n) =>
    ((tbl.filter (·.contract == c)).find? (·.name == n)).any (fun m => m.declared && m.guards.any isSpecificOnlyGate) := by
  funext ⟨c, n⟩
  simp only [gated, List.find?_filter, Bool.decide_and, Bool.decide_eq_true]
  cases List.find? (fun m => m.contract == c && m.name == n) tbl <;> rfl

/-- everything that is read off the regenerated method table, in one evaluation -/
theorem methodTable_facts :
    contractMethods.all (fun m => !m.stubPromoted || !isContractMethod stubMethods m) = true ∧
    internalEntries.all (gated contractMethods) = true ∧
    ungatedEntries.all (fun e => !gated contractMethods e) = true ∧
    ((resolve contractMethods stubMethods "TransactionManager" "Begin").isSome = true ∧
      (resolve contractMethods stubMethods "InterchainManager" "PostInterchainEvent").isNone = true) := by
  -- `contractMethods` is `(… ++ …) ++ …`: nested to the right, a row is handed through one append, not through fourteen
  simp only [contractMethods, List.append_assoc]
  rw [gated_eq]
  decide +kernel

/-- (1a) nothing promoted from the Stub interface is dispatched -/
theorem C17_stub_toolbox_not_dispatched :
    contractMethods.all (fun m => !m.stubPromoted || !isContractMethod stubMethods m) = true := methodTable_facts.1

/-- (1b) for every contract and name, what the dispatcher resolves returns a Response and is not a Stub method -/
theorem C17_resolve_sound (c name : String) (m : MInfo)
    (h : resolve contractMethods stubMethods c name = some m) :
    m.outs = responseOut ∧ m.stubPromoted = false := by
  obtain ⟨hf, hic⟩ := Option.filter_eq_some_iff.mp h
  have hall := List.all_eq_true.mp C17_stub_toolbox_not_dispatched m (List.mem_of_find?_eq_some hf)
  rw [hic] at hall
  simp only [isContractMethod, Bool.and_eq_true, beq_iff_eq] at hic
  exact ⟨hic.1, by simpa using hall⟩

/-- (2a) every contract-to-contract entry point named by the property has a specific-callers-only gate in the current source -/
theorem C17_internal_entries_gated : internalEntries.all (gated contractMethods) = true := methodTable_facts.2.1

/-- (2b) the entry points without a gate of their own are exactly the listed ones (a new ungated
internal entry, or a gate removed from one above, changes one of these two theorems) -/
theorem C17_ungated_entries_have_no_gate : ungatedEntries.all (fun e => !gated contractMethods e) = true :=
  methodTable_facts.2.2.1

/-- (3a) a specific-only gate admits exactly the listed addresses -/
theorem C17_specific_gate_iff (regulated regulator : String) (isAdmin : Option Bool) (l : List String) :
    checkPermission [.specific] regulated regulator isAdmin (some l) = .allowed ↔ regulator ∈ l := by
  simp only [checkPermission, List.contains_iff_mem]
  by_cases h : regulator ∈ l
  · simp [h]
  · simp [h]

/-- (3b) so an external account — any address outside the gate's list — is refused, whatever its role -/
theorem C17_specific_gate_refuses_outsiders (regulated regulator : String) (isAdmin : Option Bool) (l : List String)
    (h : regulator ∉ l) : checkPermission [.specific] regulated regulator isAdmin (some l) ≠ .allowed :=
  fun hc => h ((C17_specific_gate_iff regulated regulator isAdmin l).mp hc)

/-- (3c) self-or-admin gate: allowed iff the caller is the regulated party itself or an available governance admin -/
theorem C17_self_admin_gate_iff (regulated regulator : String) (adm : Bool) (sp : Option (List String)) :
    checkPermission [.self, .admin] regulated regulator (some adm) sp = .allowed ↔ (regulated = regulator ∨ adm = true) := by
  simp only [checkPermission]
  by_cases h1 : regulated = regulator
  · simp [h1]
  · cases adm <;> simp [h1]

/-- (3d) the gate never answers `allowed` when no permission is listed, and an unknown permission is an error -/
theorem C17_empty_gate_denies (a b : String) (adm : Option Bool) (sp : Option (List String)) :
    checkPermission [] a b adm sp = .denied := rfl

/-- non-vacuity: the table has the transaction manager's Begin with its caller gate, and the dispatcher resolves it -/
example : (resolve contractMethods stubMethods "TransactionManager" "Begin").isSome = true ∧
    gated contractMethods ("TransactionManager", "Begin") = true ∧
    (resolve contractMethods stubMethods "InterchainManager" "PostInterchainEvent").isNone = true :=
  ⟨methodTable_facts.2.2.2.1, List.all_eq_true.mp C17_internal_entries_gated _ List.mem_cons_self, methodTable_facts.2.2.2.2⟩

/-- the entry point through which the inter-broker contract hands an IBTP to the interchain contract asks for its caller
(since the `fix:` commit "HandleIBTPData takes only the inter-broker contract's requests of this hub's own services"; before, any
account could have an IBTP processed there without a proof check).  Re-checked against the regenerated method table. -/
theorem C17_ibtp_data_entry_asks_for_its_caller :
    contractMethods.any (fun m => m.contract == "InterchainManager" && m.name == "HandleIBTPData" && m.declared &&
      m.guards.any (fun g => match g with | .other s => s == "x.CurrentCaller()" | .currentCaller => true | _ => false)) = true := by
  simp only [contractMethods, List.append_assoc]
  decide +kernel

end Bxh.Props.C17
