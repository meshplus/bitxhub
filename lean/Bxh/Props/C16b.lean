import Bxh.Model.Lifecycle
import Bxh.Gen.Cascade
import Bxh.Gen.SubmissionCascade
import Bxh.Gen.ServiceRepause
/-!
# C16 — "an approved freeze or logout of an appchain makes all its services unusable for interchain": the cascade, at the dispatch level

`AppchainManager.Manage` runs when a proposal about an appchain concludes.  Which contract-to-contract calls it makes, per proposal
result and event, is extracted from the source on every run (`Gen.appchainCascade`), next to the life-cycle table of appchains
(`Gen.lifecycle_appchain`) and their available statuses.  What the called methods do to each service is decided on the real node
(cascade monitor of the C16 check).
-/
namespace Bxh.Props.C16
open Bxh Bxh.Lifecycle

def cascadeOf (result ev : String) : List String :=
  ((Bxh.Gen.appchainCascade.find? (fun r => r.1 == result && r.2.1 == ev)).map (·.2.2)).getD []

/-- everything that is read off the regenerated cascade table, in one evaluation -/
theorem manageCascade_facts :
    ((∃ st, step (tableOf "appchain") "freezing" "approve" "available" = some st ∧ isAvailable "appchain" st = false) ∧
     "PauseChainService" ∈ cascadeOf "approve" "freeze" ∧
     (∃ st, step (tableOf "appchain") "logouting" "approve" "available" = some st ∧ isAvailable "appchain" st = false) ∧
     "ClearChainService" ∈ cascadeOf "approve" "logout" ∧ "ClearRule" ∈ cascadeOf "approve" "logout") ∧
    (∀ r ∈ Bxh.Gen.appchainCascade, "UnPauseChainService" ∈ r.2.2 →
      (r.1 = "approve" ∧ r.2.1 = "activate") ∨ (r.1 = "reject" ∧ r.2.1 = "logout")) ∧
    ("UnPauseChainService" ∉ cascadeOf "approve" "freeze" ∧ "UnPauseChainService" ∉ cascadeOf "approve" "logout") := by
  decide +kernel

/-- an approved freeze takes the chain from `freezing` to a status that is not available and pauses the chain's services; an
approved logout takes it from `logouting` to a status that is not available, clears its services and its rules -/
theorem C16_approved_freeze_and_logout_cascade :
    (∃ st, step (tableOf "appchain") "freezing" "approve" "available" = some st ∧ isAvailable "appchain" st = false) ∧
    "PauseChainService" ∈ cascadeOf "approve" "freeze" ∧
    (∃ st, step (tableOf "appchain") "logouting" "approve" "available" = some st ∧ isAvailable "appchain" st = false) ∧
    "ClearChainService" ∈ cascadeOf "approve" "logout" ∧ "ClearRule" ∈ cascadeOf "approve" "logout" := manageCascade_facts.1

/-- the services of a chain are released again only by an approved activation or a rejected logout — no other conclusion of a
proposal about an appchain un-pauses them -/
theorem C16_services_released_only_by_activation_or_rejected_logout :
    ∀ r ∈ Bxh.Gen.appchainCascade, "UnPauseChainService" ∈ r.2.2 →
      (r.1 = "approve" ∧ r.2.1 = "activate") ∨ (r.1 = "reject" ∧ r.2.1 = "logout") := manageCascade_facts.2.1

/-- … and an approved freeze or logout never releases them -/
theorem C16_freeze_and_logout_never_release :
    "UnPauseChainService" ∉ cascadeOf "approve" "freeze" ∧ "UnPauseChainService" ∉ cascadeOf "approve" "logout" :=
  manageCascade_facts.2.2

/-- everything that is read off the regenerated cascade table, in one evaluation -/
theorem submissionCascade_facts :
    ((∃ st, step (tableOf "appchain") "available" "logout" "available" = some st ∧ isAvailable "appchain" st = false) ∧
     ("LogoutAppchain", "PauseChainService", 0) ∈ Bxh.Gen.appchainSubmissionCascade ∧
     (∃ st, step (tableOf "appchain") "available" "update" "available" = some st ∧ isAvailable "appchain" st = false) ∧
     ("UpdateAppchain", "PauseChainService", 0) ∈ Bxh.Gen.appchainSubmissionCascade ∧
     (∃ st, step (tableOf "appchain") "available" "freeze" "available" = some st ∧ isAvailable "appchain" st = true) ∧
     (∀ r ∈ Bxh.Gen.appchainSubmissionCascade, r.1 = "FreezeAppchain" → r.2.1 ≠ "PauseChainService")) ∧
    (("logout", true) ∈ Bxh.Gen.serviceRejectRepause ∧ ("freeze", true) ∈ Bxh.Gen.serviceRejectRepause ∧
     ("activate", true) ∈ Bxh.Gen.serviceRejectRepause) ∧
    (("update", false) ∈ Bxh.Gen.serviceRejectRepause ∧
     step (tableOf "service") "logouting" "reject" "available" = some "available") := by
  decide +kernel

/-- **while the operation is pending**: a logout request takes an appchain to `logouting`, an update request to `updating` — neither
is an available status — and both entries pause the chain's services themselves, on every successful path (nesting depth 0 in the
extracted call list: no `if` decides whether the cascade runs); a freeze request leaves the chain usable (`freezing` is an available
status) and pauses nothing -/
theorem C16_pending_logout_and_update_pause_unconditionally :
    (∃ st, step (tableOf "appchain") "available" "logout" "available" = some st ∧ isAvailable "appchain" st = false) ∧
    ("LogoutAppchain", "PauseChainService", 0) ∈ Bxh.Gen.appchainSubmissionCascade ∧
    (∃ st, step (tableOf "appchain") "available" "update" "available" = some st ∧ isAvailable "appchain" st = false) ∧
    ("UpdateAppchain", "PauseChainService", 0) ∈ Bxh.Gen.appchainSubmissionCascade ∧
    (∃ st, step (tableOf "appchain") "available" "freeze" "available" = some st ∧ isAvailable "appchain" st = true) ∧
    (∀ r ∈ Bxh.Gen.appchainSubmissionCascade, r.1 = "FreezeAppchain" → r.2.1 ≠ "PauseChainService") := submissionCascade_facts.1

/-- a rejected logout, freeze or activation of a service re-pauses the service when its appchain is not available (fix: 5ad5e72f);
extracted from the rejected branch of `ServiceManager.Manage` on every run -/
theorem C16_rejected_service_operations_repause :
    ("logout", true) ∈ Bxh.Gen.serviceRejectRepause ∧ ("freeze", true) ∈ Bxh.Gen.serviceRejectRepause ∧
    ("activate", true) ∈ Bxh.Gen.serviceRejectRepause := submissionCascade_facts.2.1

/-- **the recorded finding as a kernel-checked fact about the source as it is**: a rejected UPDATE of a service that is `logouting` by then
(a later logout request paused the update proposal) restores the status the update proposal remembers (`reject` from `logouting`
leads to `<last>` in the life-cycle table: `available`) and does NOT re-pause the service under an
unavailable appchain (`known_findings.json`: C16/service-usable-on-unusable-appchain/after-rejected-update; witness
`corpus/exec/c16-withdrawn-update-revives-service-under-frozen-chain.ops`).  When the code is repaired this theorem stops checking, and
the finding has to be taken off the list. -/
theorem C16_rejected_update_does_not_repause_finding :
    ("update", false) ∈ Bxh.Gen.serviceRejectRepause ∧
    step (tableOf "service") "logouting" "reject" "available" = some "available" := submissionCascade_facts.2.2

end Bxh.Props.C16
