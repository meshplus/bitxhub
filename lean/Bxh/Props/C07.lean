import Bxh.Proofs.ExecBlock
/-!
# C07 — a failed transaction leaves nothing behind but its fee

`applyTx` models `applyTransaction` (internal/executor/handle.go): snapshot, run the transaction,
charge the fee, and on a fee failure `RevertToSnapshot` and take what is left.  The theorems hold
for every ledger, every transaction of the op language, every configuration.

The one modelled error that the real code raises *after* applying effects on the IBTP path (the
audit information of a party cannot be read) is excluded by `auditHole`; the IBTP path has no
inner snapshot, so the model keeps the effects there exactly as the code would.  No reachable
state of the harness world exhibits it (both parties of an accepted IBTP have an interchain
record), which is why it is a hypothesis here and not a finding.

Nonces are not part of the model (the correspondence monitor checks them on the real node).
-/
namespace Bxh.Props.C07
open Bxh.Exec

def start (l : Led) : Led := { l with journal := [], events := [] }

/-- reverting to the snapshot taken when the transaction started restores storage and balances -/
theorem revert_restores (env : Env) (l : Led) (tx : Tx) (inv : Option String) :
    ((applyBxh env (start l) tx inv).1.revert (start l).snapshot).same (start l) :=
  (applyBxh_body env (start l) tx inv rfl).revert_same rfl

/-- **a FAILED transaction is a charge on the ledger it started from** (that it carries no event: `C07_failed_tx_not_listed`) — whether it was rejected before
execution (`inv`), refused by a contract, or could not pay and was undone; the audit-event failure excepted -/
theorem failed_is_charge (env : Env) (l : Led) (tx : Tx) (inv : Option String)
    (hfail : (applyTx env l tx inv).2.rcpt.ok = false) (hk : inv.isSome = true ∨ ¬ auditHole env (start l) tx) :
    ∃ l0 x, l0.same (start l) ∧ (applyTx env l tx inv).1 = (charge env.cfg l0 tx.sender x).finalise := by
  have b := applyBxh_body env (start l) tx inv rfl
  refine (applyTx_outcome env l tx inv).of_failed hfail (b.revert_same rfl) (fun e he => ?_)
  rcases hk with hs | hh
  · obtain ⟨r, rfl⟩ := Option.isSome_iff_exists.mp hs; rfl
  · exact b.error_keeps he hh

/-- **C07 (storage)**: whatever the reason of the failure — rejected before execution, contract
error, or a fee that cannot be paid after the transaction was fully processed — a transaction
whose receipt is FAILED leaves every storage key of every contract as it was. -/
theorem C07_failed_tx_storage_unchanged (env : Env) (l : Led) (tx : Tx) (inv : Option String)
    (hfail : (applyTx env l tx inv).2.rcpt.ok = false) (hh : ¬ auditHole env (start l) tx) :
    ∀ k, (applyTx env l tx inv).1.getS k = l.getS k := by
  obtain ⟨l0, x, hs, e⟩ := failed_is_charge env l tx inv hfail (.inr hh)
  exact charge_keeps_storage hs e

/-- **C07 (balances)**: a FAILED transaction changes no balance except the sender's (fee) and the
admins' (their shares). -/
theorem C07_failed_tx_balances_unchanged (env : Env) (l : Led) (tx : Tx) (inv : Option String)
    (hfail : (applyTx env l tx inv).2.rcpt.ok = false) (hh : ¬ auditHole env (start l) tx)
    (a : String) (hs : a ≠ tx.sender) (ha : a ∉ env.cfg.admins) :
    (applyTx env l tx inv).1.getBal a = l.getBal a := by
  obtain ⟨l0, x, hsame, e⟩ := failed_is_charge env l tx inv hfail (.inr hh)
  exact charge_keeps_others hsame e a hs ha

/-- **C07 (delivery set)**: a FAILED transaction carries no event, so it is never listed in the
block's delivery set, does not reach the service cache and is not fed to the node/audit event
subscribers.  (Before the `fix:` commit "do not process the events of a failed transaction" the
events of a fee-failed transaction survived its revert.) -/
theorem C07_failed_tx_not_listed (env : Env) (l : Led) (tx : Tx) (inv : Option String)
    (hfail : (applyTx env l tx inv).2.rcpt.ok = false) :
    (applyTx env l tx inv).2.events = [] := by
  cases applyTx_outcome env l tx inv with
  | paid x _ _ hout => rw [hout] at hfail ⊢; rw [hfail]; rfl
  | unpaid rc _ hout => rw [hout]

/-- the ledger handed to the next transaction has an empty journal: nothing of a finished
transaction can be reverted by a later one -/
theorem C07_journal_reset (env : Env) (l : Led) (tx : Tx) (inv : Option String) :
    (applyTx env l tx inv).1.journal = [] := by
  cases applyTx_outcome env l tx inv with
  | paid x _ _ hout => rw [hout]; rfl
  | unpaid rc _ hout => rw [hout]; rfl

/-- non-vacuity: a fee-starved sender's valid request is processed, fails on the fee, and leaves
the interchain counters untouched -/
example :
    let cfg : Cfg := { price := 1, rule := fun _ => some true }
    let s1 : SvcId := ⟨"1356", "c1", "s1"⟩
    let s2 : SvcId := ⟨"1356", "c2", "s1"⟩
    let svc : Svc := { ordered := true, blacklist := [], available := true }
    let l : Led := { store := [(.svc "c1" "s1", .svc svc), (.svc "c2" "s1", .svc svc)], bal := [("ca1", 5)] }
    let env : Env := { cfg := cfg, cache := [], height := 7, txIndex := 0 }
    let tx : Tx := .ibtp "ca1" { frm := some s1, to := some s2, index := 1, typ := .interchain, timeout := 0, group := none } .ok
    (applyTx env l tx none).2.rcpt.ok = false ∧ (applyTx env l tx none).2.rcpt.ret = "fee" ∧
      (applyTx env l tx none).1.getS (.ic s1) = none := by decide +kernel

end Bxh.Props.C07
