/-!
Folds read off their step: invariants, the first step that breaks a property, and steps that each act under the key of their item
only (`KeyLocal`: such a fold is read off key by key).
-/
namespace Bxh

theorem foldl_inv_mem {σ ι : Type} {P : σ → Prop} {f : σ → ι → σ} (xs : List ι) (hf : ∀ s x, x ∈ xs → P s → P (f s x)) {s : σ} (h : P s) :
    P (xs.foldl f s) := by
  induction xs generalizing s with
  | nil => exact h
  | cons x rest ih => exact ih (fun s y hy => hf s y (List.mem_cons_of_mem _ hy)) (hf s x List.mem_cons_self h)

theorem foldl_inv {σ ι : Type} {P : σ → Prop} {f : σ → ι → σ} (hf : ∀ s x, P s → P (f s x)) (xs : List ι) {s : σ} (h : P s) :
    P (xs.foldl f s) :=
  foldl_inv_mem xs (fun s x _ => hf s x) h

theorem foldl_keeps_or_breaks {σ ι : Type} {f : σ → ι → σ} {Keep : σ → Prop} {Why : σ → ι → Prop}
    (hf : ∀ s x, Keep s → Keep (f s x) ∨ Why s x) (xs : List ι) {s : σ} (h : Keep s) :
    Keep (xs.foldl f s) ∨ ∃ pre x post, xs = pre ++ x :: post ∧ Why (pre.foldl f s) x := by
  induction xs generalizing s with
  | nil => exact Or.inl h
  | cons x rest ih =>
    rcases hf s x h with hk | hw
    · exact (ih hk).imp_right fun ⟨pre, y, post, e, hw⟩ => ⟨x :: pre, y, post, by rw [e]; rfl, hw⟩
    · exact Or.inr ⟨[], x, rest, rfl, hw⟩

/-- `f` is a step that acts under the key of its item only; `R b s t`: the states `s` and `t` agree under key `b` -/
structure KeyLocal {σ ι κ : Type} (key : ι → κ) (f : σ → ι → σ) (R : κ → σ → σ → Prop) : Prop where
  refl : ∀ b s, R b s s
  trans : ∀ {b s t u}, R b s t → R b t u → R b s u
  other : ∀ s x b, key x ≠ b → R b (f s x) s

variable {σ ι κ : Type} {key : ι → κ} {f : σ → ι → σ} {R : κ → σ → σ → Prop}

theorem KeyLocal.foldl_other (h : KeyLocal key f R) (b : κ) (xs : List ι) (s : σ) (hb : ∀ x ∈ xs, key x ≠ b) : R b (xs.foldl f s) s :=
  foldl_inv_mem (P := fun t => R b t s) xs (fun t x hx ht => h.trans (h.other t x b (hb x hx)) ht) (h.refl b s)

theorem KeyLocal.foldl_at (h : KeyLocal key f R) {x : ι} : ∀ (xs : List ι) (s : σ), (xs.map key).Nodup → x ∈ xs →
    ∃ s', R (key x) s' s ∧ R (key x) (xs.foldl f s) (f s' x)
  | y :: ys, s, hnd, hx => by
    obtain ⟨hy, hys⟩ := List.nodup_cons.mp hnd
    rcases List.mem_cons.mp hx with rfl | hx
    · exact ⟨s, h.refl _ s, h.foldl_other _ ys _ (fun z hz e => hy (e ▸ List.mem_map_of_mem hz))⟩
    · obtain ⟨s', h1, h2⟩ := h.foldl_at ys (f s y) hys hx
      exact ⟨s', h.trans h1 (h.other s y _ (fun e => hy (e ▸ List.mem_map_of_mem hx))), h2⟩

end Bxh
