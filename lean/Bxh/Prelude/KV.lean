/-!
Association-list maps used by all models (executable, enumerable).  `set` keeps at most one binding per key (`set_nodup`: a map
without duplicate keys stays one).
-/
namespace Bxh

abbrev KV (α : Type) (β : Type) := List (α × β)

namespace KV
variable {α β : Type} [DecidableEq α]

def empty : KV α β := []

def get (m : KV α β) (k : α) : Option β :=
  match m with
  | [] => none
  | (k', v) :: rest => if k' = k then some v else get rest k

def erase (m : KV α β) (k : α) : KV α β :=
  m.filter (fun p => p.1 ≠ k)

def set (m : KV α β) (k : α) (v : β) : KV α β :=
  (k, v) :: erase m k

def keys (m : KV α β) : List α := m.map (·.1)

def contains (m : KV α β) (k : α) : Bool := (get m k).isSome

def getD (m : KV α β) (k : α) (d : β) : β := (get m k).getD d

@[simp] theorem get_empty (k : α) : get (empty : KV α β) k = none := rfl

theorem get_cons (p : α × β) (m : KV α β) (k : α) : get (p :: m) k = if p.1 = k then some p.2 else get m k := rfl

theorem get_eq_none_iff {m : KV α β} {k : α} : get m k = none ↔ ∀ p ∈ m, p.1 ≠ k := by
  induction m with
  | nil => exact ⟨fun _ _ h => absurd h List.not_mem_nil, fun _ => rfl⟩
  | cons p rest ih =>
    rw [get_cons, List.forall_mem_cons, ← ih]
    by_cases hk : p.1 = k
    · simp [hk]
    · simp [hk]

theorem get_filter_key (m : KV α β) (q : α → Bool) (k : α) :
    get (m.filter (fun p => q p.1)) k = if q k = true then get m k else none := by
  induction m with
  | nil => simp [get]
  | cons p rest ih =>
    rw [List.filter_cons, get_cons]
    by_cases hp : q p.1 = true
    · rw [if_pos hp, get_cons, ih]
      by_cases hk : p.1 = k
      · rw [if_pos hk, if_pos hk, if_pos (hk ▸ hp)]
      · rw [if_neg hk, if_neg hk]
    · rw [if_neg hp, ih]
      by_cases hq : q k = true
      · rw [if_pos hq, if_pos hq, if_neg (fun (e : p.1 = k) => hp (e ▸ hq))]
      · rw [if_neg hq, if_neg hq]

theorem get_erase (m : KV α β) (k k' : α) : get (erase m k) k' = if k = k' then none else get m k' := by
  unfold erase
  rw [get_filter_key m (fun a => decide (a ≠ k)) k']
  by_cases h : k = k'
  · rw [if_pos h, if_neg (by simpa using h.symm)]
  · rw [if_neg h, if_pos (by simpa using Ne.symm h)]

theorem get_erase_eq (m : KV α β) (k : α) : get (erase m k) k = none := by rw [get_erase, if_pos rfl]

theorem get_erase_ne (m : KV α β) (k k' : α) (h : k ≠ k') : get (erase m k) k' = get m k' := by rw [get_erase, if_neg h]

theorem get_of_get_erase {m : KV α β} {k k' : α} {v : β} (h : get (erase m k) k' = some v) : get m k' = some v := by
  rw [get_erase] at h
  split at h
  · cases h
  · exact h

theorem get_set (m : KV α β) (k k' : α) (v : β) :
    get (set m k v) k' = if k = k' then some v else get m k' := by
  unfold set
  rw [get_cons, get_erase]
  by_cases h : k = k'
  · rw [if_pos h, if_pos h]
  · rw [if_neg h, if_neg h, if_neg h]

@[simp] theorem get_set_eq (m : KV α β) (k : α) (v : β) : get (set m k v) k = some v := by rw [get_set, if_pos rfl]

theorem get_set_ne (m : KV α β) (k k' : α) (v : β) (h : k ≠ k') : get (set m k v) k' = get m k' := by rw [get_set, if_neg h]

theorem erase_of_get_none (m : KV α β) (k : α) (h : get m k = none) : erase m k = m :=
  List.filter_eq_self.mpr (fun p hp => by simpa using get_eq_none_iff.mp h p hp)

theorem get_foldl_erase (ks : List α) (m : KV α β) (k : α) :
    get (ks.foldl erase m) k = if k ∈ ks then none else get m k := by
  induction ks generalizing m with
  | nil => rfl
  | cons k0 rest ih =>
    rw [List.foldl_cons, ih, get_erase]
    by_cases h0 : k0 = k
    · simp [h0]
    · simp [h0, Ne.symm h0]

theorem mem_of_get {m : KV α β} {k : α} {v : β} (h : get m k = some v) : (k, v) ∈ m := by
  induction m with
  | nil => cases h
  | cons p rest ih =>
    obtain ⟨k', v'⟩ := p
    unfold get at h
    by_cases hk : k' = k
    · rw [if_pos hk] at h; cases h; subst hk; exact List.mem_cons_self
    · rw [if_neg hk] at h; exact List.mem_cons_of_mem _ (ih h)

theorem get_of_mem {m : KV α β} (hm : (m.map (·.1)).Nodup) {k : α} {v : β} (h : (k, v) ∈ m) : get m k = some v := by
  induction m with
  | nil => cases h
  | cons p rest ih =>
    obtain ⟨hp, hrest⟩ := List.nodup_cons.mp hm
    rw [get_cons]
    rcases List.mem_cons.mp h with e | h
    · rw [← e, if_pos rfl]
    · rw [if_neg (fun e => hp (List.mem_map.mpr ⟨(k, v), h, e.symm⟩))]
      exact ih hrest h

theorem erase_nodup (m : KV α β) (k : α) (h : (m.map (·.1)).Nodup) : ((erase m k).map (·.1)).Nodup :=
  (List.Sublist.map _ List.filter_sublist).nodup h

theorem set_nodup (m : KV α β) (k : α) (v : β) (h : (m.map (·.1)).Nodup) : ((set m k v).map (·.1)).Nodup := by
  refine List.nodup_cons.mpr ⟨fun hm => ?_, erase_nodup m k h⟩
  obtain ⟨p, hp, e⟩ := List.mem_map.mp hm
  exact get_eq_none_iff.mp (get_erase_eq m k) p hp e

def put (m : KV α β) (k : α) (o : Option β) : KV α β :=
  match o with
  | some v => set m k v
  | none => erase m k

theorem get_put (m : KV α β) (k k' : α) (o : Option β) : get (put m k o) k' = if k = k' then o else get m k' := by
  cases o with
  | some v => exact get_set m k k' v
  | none => exact get_erase m k k'

theorem put_nodup (m : KV α β) (k : α) (o : Option β) (h : (m.map (·.1)).Nodup) : ((put m k o).map (·.1)).Nodup := by
  cases o with
  | some v => exact set_nodup m k v h
  | none => exact erase_nodup m k h

def putIf (m : KV α β) (k : α) (w : Option (Option β)) : KV α β :=
  match w with
  | some o => put m k o
  | none => m

theorem get_putIf (m : KV α β) (k k' : α) (w : Option (Option β)) :
    get (putIf m k w) k' = if k = k' then w.getD (get m k') else get m k' := by
  cases w with
  | some o => exact get_put m k k' o
  | none => exact (ite_self _).symm

theorem get_foldl_put {ι : Type} (key : ι → α) (val : ι → Option β) (xs : List ι) (m : KV α β) (k : α) :
    get (xs.foldl (fun m x => put m (key x) (val x)) m) k =
      match xs.reverse.find? (fun x => key x = k) with
      | some x => val x
      | none => get m k := by
  induction xs generalizing m with
  | nil => rfl
  | cons x xs ih =>
    rw [List.foldl_cons, ih, List.reverse_cons, List.find?_append]
    cases xs.reverse.find? (fun x => key x = k) with
    | some y => rfl
    | none =>
      rw [get_put]
      by_cases hk : key x = k
      · simp [hk]
      · simp [hk]

/-- the binding a fold of writes leaves: the last in the list (`get` finds the first) -/
def last (m : KV α β) (k : α) : Option β := (m.reverse.find? (fun p => p.1 = k)).map (·.2)

theorem last_eq_none {m : KV α β} {k : α} (h : ∀ p ∈ m, p.1 ≠ k) : last m k = none := by
  unfold last
  rw [List.find?_eq_none.mpr (fun p hp => by simpa using h p (List.mem_reverse.mp hp))]
  rfl

theorem last_eq_some {m : KV α β} {k : α} {v : β} (hk : ∃ p ∈ m, p.1 = k) (hv : ∀ p ∈ m, p.1 = k → p.2 = v) : last m k = some v := by
  unfold last
  cases hf : m.reverse.find? (fun p => p.1 = k) with
  | some p => exact congrArg some (hv p (List.mem_reverse.mp (List.mem_of_find?_eq_some hf)) (by simpa using List.find?_some hf))
  | none =>
    obtain ⟨p, hp, e⟩ := hk
    exact absurd e (by simpa using List.find?_eq_none.mp hf p (List.mem_reverse.mpr hp))

theorem last_of_nodup {m : KV α β} (hm : (m.map (·.1)).Nodup) (k : α) : last m k = get m k := by
  cases hg : get m k with
  | none => exact last_eq_none (get_eq_none_iff.mp hg)
  | some v =>
    refine last_eq_some ⟨(k, v), mem_of_get hg, rfl⟩ (fun p hp e => ?_)
    have : get m k = some p.2 := get_of_mem hm (by rw [← e]; exact hp)
    rw [hg] at this
    exact (Option.some.inj this).symm

theorem get_foldl_set (ds m : KV α β) (k : α) :
    get (ds.foldl (fun m p => set m p.1 p.2) m) k = (last ds k).or (get m k) := by
  refine (get_foldl_put (fun p : α × β => p.1) (fun p => some p.2) ds m k).trans ?_
  unfold last
  cases ds.reverse.find? (fun p => p.1 = k) <;> rfl

end KV
end Bxh
