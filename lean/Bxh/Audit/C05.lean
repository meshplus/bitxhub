import Bxh.Props.C05
import Bxh.Props.C05b
#print axioms Bxh.Props.C05.edge_dead
#print axioms Bxh.Props.C05.globStep_edge
#print axioms Bxh.Props.C05.C05_global_success_needs_all
#print axioms Bxh.Props.C05.C05_failed_group_never_succeeds
#print axioms Bxh.Props.C05.C05_failure_receipt_flips_all
#print axioms Bxh.Props.C05.mem_putChild
#print axioms Bxh.Props.C05.C05_begin_failure_flips_all
#print axioms Bxh.Props.C05.C05_report_failure_notifies
#print axioms Bxh.Props.C05.handleIBTP_globState
#print axioms Bxh.Props.C05.handleIBTP_glob_dead
#print axioms Bxh.Props.C05.C05_history_failed_group_stays_failed
#print axioms Bxh.Props.C05.applyTx_glob_dead
#print axioms Bxh.Props.C05.setTimeoutRollback_glob_dead
#print axioms Bxh.Props.C05.execBlock_glob_dead
#print axioms Bxh.Props.C05.C05_block_history_failed_group_stays_failed
#print axioms Bxh.Props.C05.C05_router_hands_each_pier_its_notifications
#print axioms Bxh.Props.C05.C05_child_count_is_the_number_of_group_entries
