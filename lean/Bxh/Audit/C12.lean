import Bxh.Props.C12
#print axioms Bxh.Props.C12.C12_refuse_higher
#print axioms Bxh.Props.C12.C12_refuse_too_much
#print axioms Bxh.Props.C12.C12_noop_at_head
#print axioms Bxh.Props.C12.commit_range
#print axioms Bxh.Props.C12.newMin_eq_max
#print axioms Bxh.Props.C12.C12_commit_keeps_window
#print axioms Bxh.Props.C12.C12_reverting_journals_restores_any_height
#print axioms Bxh.Props.C12.C12_rollback_restores_any_retained_height
#print axioms Bxh.Props.C12.C12_rollback_restores_previous_block
#print axioms Bxh.Props.C12.C12_rollback_continues_root_chain
#print axioms Bxh.Props.C12.C12_journal_window_as_in_the_source
