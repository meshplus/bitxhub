import Bxh.Props.C20
import Bxh.Props.C20b
#print axioms Bxh.Props.C20.C20_ranges_partition_holds
#print axioms Bxh.Props.C20.C20_ranges_refuse
#print axioms Bxh.Props.C20.C20_sync_stream_each_height_once
#print axioms Bxh.Props.C20.C20_delivery_consecutive
#print axioms Bxh.Props.C20.C20_snapshot_ahead_skips_unexecuted
#print axioms Bxh.Props.C20.step_vote
#print axioms Bxh.Props.C20.C20_vote_survives_history
#print axioms Bxh.Props.C20.C20_restart_keeps_hard_state
#print axioms Bxh.Props.C20.run_safe
#print axioms Bxh.Props.C20.readyHandler_facts
#print axioms Bxh.Props.C20.C20_ready_handler_sends_after_store
#print axioms Bxh.Props.C20.C20_ready_handler_has_store_and_send
#print axioms Bxh.Props.C20.C20_acknowledged_entries_survive_any_crash
#print axioms Bxh.Props.C20.C20_send_before_store_forgets_an_acknowledged_entry
#print axioms Bxh.Props.C20.C20_ready_handler_applies_after_store_and_advances_last
