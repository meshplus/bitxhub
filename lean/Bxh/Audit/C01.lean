import Bxh.Props.C01
import Bxh.Props.C01b
#print axioms Bxh.Props.C01.mapRanges_facts
#print axioms Bxh.Props.C01.C01_appending_map_loops_are_sorted
#print axioms Bxh.Props.C01.C01_writing_map_loops_are_reviewed
#print axioms Bxh.Props.C01.C01_reviewed_entries_exist
#print axioms Bxh.Props.C01.C01_repaired_loops_sorted
#print axioms Bxh.Props.C01.C01_model_is_a_function
#print axioms Bxh.Props.C01.getSvc_coherent
#print axioms Bxh.Props.C01.checkTarget_coherent
#print axioms Bxh.Props.C01.C01_coherent_cache_invisible
#print axioms Bxh.Props.C01.C01_restarted_replica_reads_alike
#print axioms Bxh.Props.C01.C01_cache_evictions_do_not_show
