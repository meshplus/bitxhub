import Bxh.Props.C18
#print axioms Bxh.Props.C18.batchPointers_eq
#print axioms Bxh.Props.C18.C18_batch_size_bound
#print axioms Bxh.Props.C18.C18_batch_is_pointer_image
#print axioms Bxh.Props.C18.C18_generate_gap_free_no_repeat
#print axioms Bxh.Props.C18.C18_batched_grows_by_batch
#print axioms Bxh.Props.C18.C18_never_below_commit_nonce
#print axioms Bxh.Props.C18.C18_generate_keeps_batched_above_commit
#print axioms Bxh.Props.C18.C18_seqno_steps_by_one
#print axioms Bxh.Props.C18.generateBlock_none
#print axioms Bxh.Props.C18.builds_or_idles
#print axioms Bxh.Props.C18.emitted_is_the_batch
#print axioms Bxh.Props.C18.step_batched
#print axioms Bxh.Props.C18.C18_history_rebatch_only_after_commit
#print axioms Bxh.Props.C18.C18_history_no_double_batch
