import Bxh.Props.C13
import Bxh.Props.C13b
#print axioms Bxh.Props.C13.C13_read_after_set
#print axioms Bxh.Props.C13.C13_read_after_add
#print axioms Bxh.Props.C13.C13_set_other_key_dirty
#print axioms Bxh.Props.C13.C13_exists_iff_nonempty
#print axioms Bxh.Props.C13.C13_empty_write_is_absent
#print axioms Bxh.Props.C13.C13_read_after_flush
#print axioms Bxh.Props.C13.C13_read_after_commit_reopen
#print axioms Bxh.Props.C13.C13_write_changes_exactly_one_key
#print axioms Bxh.Props.C13.C13_read_after_writes
#print axioms Bxh.Props.C13.C13_flush_keeps_every_read
#print axioms Bxh.Props.C13.C13_block_writes_survive_flush
#print axioms Bxh.Props.C13.C13_revert_restores_every_journaled_value
#print axioms Bxh.Props.C13.C13_nested_snapshots_revert_independently
#print axioms Bxh.Props.C13.C13_query_lists_exactly_the_live_keys
#print axioms Bxh.Props.C13.C13_query_sound
#print axioms Bxh.Props.C13.C13_query_complete
#print axioms Bxh.Props.C13.C13_query_exact_in_and_after_a_block
#print axioms Bxh.Props.C13.C13_eviction_keeps_every_read
#print axioms Bxh.Props.C13.C13_key_eviction_keeps_every_read
#print axioms Bxh.Props.C13.C13_reopen_keeps_every_read
#print axioms Bxh.Props.C13.C13_commit_reestablishes_cache_coherence
#print axioms Bxh.Props.C13.C13_latest_write_survives_flush_commit_evict_reopen
#print axioms Bxh.Props.C13.C13_inner_eviction_keeps_balance_and_nonce
#print axioms Bxh.Props.C13.C13_reopen_keeps_balance_and_nonce
