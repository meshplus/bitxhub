import Bxh.Props.C08
#print axioms Bxh.Props.C08.applyTxs_eq_foldl
#print axioms Bxh.Props.C08.foldl_counts
#print axioms Bxh.Props.C08.C08_one_receipt_per_tx
#print axioms Bxh.Props.C08.C08_next_height
#print axioms Bxh.Props.C08.C08_receipts_in_block_order
#print axioms Bxh.Props.C08.C08_rejected_tx_gets_failed_receipt
#print axioms Bxh.Props.C08.C08_remove_panic_is_contained
#print axioms Bxh.Props.C08.guardTables_facts
#print axioms Bxh.Props.C08.C08_goroutines_guarded_or_reviewed
#print axioms Bxh.Props.C08.C08_reviewed_goroutines_exist
#print axioms Bxh.Props.C08.C08_recover_guards_in_place
#print axioms Bxh.Props.C08.C08_contracts_start_no_goroutine
