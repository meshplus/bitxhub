import Bxh.Props.C03
import Bxh.Props.C03b
#print axioms Bxh.Props.C03.C03_verdict_none_iff
#print axioms Bxh.Props.C03.C03_unregistered_hub_rejected
#print axioms Bxh.Props.C03.C03_too_few_signatures_rejected
#print axioms Bxh.Props.C03.C03_bad_proof_rejected
#print axioms Bxh.Props.C03.C03_unverified_ibtp_no_effect
#print axioms Bxh.Props.C03.C03_success_needs_verified_proof
#print axioms Bxh.Props.C03.loop_ok_iff
#print axioms Bxh.Props.C03.C03_multisign_ok_iff
#print axioms Bxh.Props.C03.C03_bad_signature_never_counts
#print axioms Bxh.Props.C03.C03_validator_counted_once
#print axioms Bxh.Props.C03.C03_count_le_validators
#print axioms Bxh.Props.C03.C03_no_signature_rejected
#print axioms Bxh.Props.C03.cnt_nodup
#print axioms Bxh.Props.C03.C03_msig_kind_is_threshold_rule
#print axioms Bxh.Props.C03.C03_every_position_is_checked
#print axioms Bxh.Props.C03.C03_rejected_is_recorded
#print axioms Bxh.Props.C03.C03_fanout_arithmetic_as_modelled
#print axioms Bxh.Props.C03.C03_parallel_group_count_positive
