import Bxh.Props.C09
#print axioms Bxh.Props.C09.C09_persist_links
#print axioms Bxh.Props.C09.C09_persist_lookup
#print axioms Bxh.Props.C09.C09_persist_consistent
#print axioms Bxh.Props.C09.C09_persist_total
#print axioms Bxh.Props.C09.C09_rollback_clears_above_target
#print axioms Bxh.Props.C09.C09_ledger_rollback_clears_above_target
#print axioms Bxh.Props.C09.C09_every_height_linked_and_indexed
#print axioms Bxh.Props.C09.C09_tx_lookup_agrees
#print axioms Bxh.Props.C09.C09_history_chain_linked
#print axioms Bxh.Props.C09.C09_history_cumulative_interchain_count
#print axioms Bxh.Props.C09.C09_history_nothing_above_head
