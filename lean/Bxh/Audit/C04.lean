import Bxh.Props.C04
import Bxh.Props.C04b
#print axioms Bxh.Props.C04.C04_table_no_exit_from_final
#print axioms Bxh.Props.C04.C04_table_edges_are_protocol
#print axioms Bxh.Props.C04.name_final
#print axioms Bxh.Props.C04.C04_final_absorbing_step
#print axioms Bxh.Props.C04.C04_step_is_protocol_edge
#print axioms Bxh.Props.C04.C04_report_moves_along_fsm
#print axioms Bxh.Props.C04.C04_report_refused_when_final
#print axioms Bxh.Props.C04.C04_status_query_exact
#print axioms Bxh.Props.C04.Reach.of_final
#print axioms Bxh.Props.C04.Reach.edges
#print axioms Bxh.Props.C04.checkIBTP_known_request_notice
#print axioms Bxh.Props.C04.moves_not_final
#print axioms Bxh.Props.C04.moves_of_response
#print axioms Bxh.Props.C04.handleIBTP_known_named
#print axioms Bxh.Props.C04.handleIBTP_known
#print axioms Bxh.Props.C04.C04_history_status_path
#print axioms Bxh.Props.C04.C04_history_final_stays
#print axioms Bxh.Props.C04.C04_created_record_is_bounded
#print axioms Bxh.Props.C04.noticeEvent_values
#print axioms Bxh.Props.C04.notice_step
#print axioms Bxh.Props.C04.C04_notice_only_from_begin
#print axioms Bxh.Props.C04.C04_notice_accepted_at_begin
#print axioms Bxh.Props.C04.C04_history_final_stays_remote
#print axioms Bxh.Props.C04.FinalInv.of_reads
#print axioms Bxh.Props.C04.applyTx_known
#print axioms Bxh.Props.C04.applyTx_known_named
#print axioms Bxh.Props.C04.final_step
#print axioms Bxh.Props.C04.C04_tx_final_stays
#print axioms Bxh.Props.C04.PairInv.of_reads
#print axioms Bxh.Props.C04.handleIBTP_response_ret
#print axioms Bxh.Props.C04.applyTx_response_txStatus
#print axioms Bxh.Props.C04.PairInv.conv
#print axioms Bxh.Props.C04.applyTx_known_rec
#print axioms Bxh.Props.C04.pair_step
#print axioms Bxh.Props.C04.countP_snoc_false
#print axioms Bxh.Props.C04.recOrDone_step
#print axioms Bxh.Props.C04.C04_known_request_refused
#print axioms Bxh.Props.C04.NewInv.of_reads
#print axioms Bxh.Props.C04.handleIBTP_new
#print axioms Bxh.Props.C04.new_step
#print axioms Bxh.Props.C04.accepted_append_false
#print axioms Bxh.Props.C04.accepted_first
#print axioms Bxh.Props.C04.reqOk_of_add
#print axioms Bxh.Props.C04.count_adds_le_countP
#print axioms Bxh.Props.C04.adds_none
#print axioms Bxh.Props.C04.listAfter_unlisted'
#print axioms Bxh.Props.C04.timeoutAct_receipt_final
#print axioms Bxh.Props.C04.respOf_remove
#print axioms Bxh.Props.C04.accepted_add_deadline
#print axioms Bxh.Props.C04.execBlock_cache
#print axioms Bxh.Props.C04.execBlock_count_le
#print axioms Bxh.Props.C04.execBlock_count_le_of_no_req
#print axioms Bxh.Props.C04.execBlock_count_eq
#print axioms Bxh.Props.C04.execBlock_count_zero
#print axioms Bxh.Props.C04.execBlock_ends
#print axioms Bxh.Props.C04.Ends.pair
#print axioms Bxh.Props.C04.Ends.new
#print axioms Bxh.Props.C04.Ends.final
#print axioms Bxh.Props.C04.Ends.stillOpen
#print axioms Bxh.Props.C04.execBlock_answered
#print axioms Bxh.Props.C04.block_final_loop
#print axioms Bxh.Props.C04.block_fresh_loop
#print axioms Bxh.Props.C04.block_open_loop
#print axioms Bxh.Props.C04.C04_block_final_stays
#print axioms Bxh.Props.C04.C04_block_final_stays_unlisted
#print axioms Bxh.Props.C04.C04_block_finalising_unlists
#print axioms Bxh.Props.C04.C04_block_open_stays
#print axioms Bxh.Props.C04.C04_block_fresh_step
#print axioms Bxh.Props.C04.C04_block_history_final_stays
#print axioms Bxh.Props.C04.C04_block_history_final_stays_unlisted
#print axioms Bxh.Props.C04.C04_block_tracked
#print axioms Bxh.Props.C04.C04_history_tracked
#print axioms Bxh.Props.C04.Tracked.final_of_status
#print axioms Bxh.Props.C04.C04_final_is_forever
#print axioms Bxh.Props.C04.C04_ibtp_context_carries_the_block_height
