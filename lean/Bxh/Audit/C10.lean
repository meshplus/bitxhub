import Bxh.Props.C10
#print axioms Bxh.Props.C10.C10_sortAccts_perm
#print axioms Bxh.Props.C10.C10_sortKeys_perm
#print axioms Bxh.Props.C10.C10_account_preimage_perm
#print axioms Bxh.Props.C10.C10_root_is_hash_of_preimage
#print axioms Bxh.Props.C10.hash_ne_or_collision
#print axioms Bxh.Props.C10.C10_sensitivity_reduction
#print axioms Bxh.Props.C10.C10_concatenation_collision
#print axioms Bxh.Props.C10.C10_state_text_sensitivity
#print axioms Bxh.Props.C10.C10_prev_root_in_preimage
#print axioms Bxh.Props.C10.C10_levelUp_sensitive
#print axioms Bxh.Props.C10.levelUp_length
#print axioms Bxh.Props.C10.dupLast_eq
#print axioms Bxh.Props.C10.dupLast_length
#print axioms Bxh.Props.C10.root_dupLast
#print axioms Bxh.Props.C10.C10_merkle_odd_duplication
#print axioms Bxh.Props.C10.dupLast_injective
#print axioms Bxh.Props.C10.build_succ
#print axioms Bxh.Props.C10.build_sensitive
#print axioms Bxh.Props.C10.C10_merkle_root_sensitive
#print axioms Bxh.Props.C10.build_total
#print axioms Bxh.Props.C10.C10_merkle_root_exists
