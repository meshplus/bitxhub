import Bxh.Props.C07
import Bxh.Props.C07b
#print axioms Bxh.Props.C07.revert_restores
#print axioms Bxh.Props.C07.failed_is_charge
#print axioms Bxh.Props.C07.C07_failed_tx_storage_unchanged
#print axioms Bxh.Props.C07.C07_failed_tx_balances_unchanged
#print axioms Bxh.Props.C07.C07_failed_tx_not_listed
#print axioms Bxh.Props.C07.C07_journal_reset
#print axioms Bxh.Props.C07.C07_view_execution_changes_nothing
#print axioms Bxh.Props.C07.C07_events_void_iff_failed
