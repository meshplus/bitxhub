import Bxh.Props.C19
#print axioms Bxh.Props.C19.C19_evict_only_old_nonready_nonbatched
#print axioms Bxh.Props.C19.C19_evict_count
#print axioms Bxh.Props.C19.evict_nothing_old
#print axioms Bxh.Props.C19.C19_unreachable_tolerance_evicts_nothing
#print axioms Bxh.Props.C19.C19_getTx_from_items
#print axioms Bxh.Props.C19.C19_pending_flag_is_counter
#print axioms Bxh.Props.C19.C19_generate_forgets_nothing
#print axioms Bxh.Props.C19.C19_process_forgets_only_superseded
#print axioms Bxh.Props.C19.C19_commit_forgets_only_committed
#print axioms Bxh.Props.C19.C19_evict_forgets_only_parked
#print axioms Bxh.Props.C19.C19_admission_sound
#print axioms Bxh.Props.C19.txCacheRun_eq
#print axioms Bxh.Props.C19.cacheFold
#print axioms Bxh.Props.C19.C19_txcache_loses_nothing
#print axioms Bxh.Props.C19.step_keeps_or_reason
#print axioms Bxh.Props.C19.C19_history_no_silent_loss
#print axioms Bxh.Props.C19.C19_ready_is_maximal_gap_free_run
#print axioms Bxh.Props.C19.C19_pending_nonce_is_behind_the_ready_run
#print axioms Bxh.Props.C19.C19_ready_run_of_set_index
