import Bxh.Props.C02
#print axioms Bxh.Props.C02.C02_index_check_exact
#print axioms Bxh.Props.C02.fee_step_frame
#print axioms Bxh.Props.C02.C02_rejected_by_check_no_effect
#print axioms Bxh.Props.C02.C02_rejected_by_contract_no_effect
#print axioms Bxh.Props.C02.C02_accept_needs_next_index
#print axioms Bxh.Props.C02.C02_router_hands_each_pier_its_delivery_set
#print axioms Bxh.Props.C02.C02_fee_failed_not_listed
#print axioms Bxh.Props.C02.C02_rejected_no_effect_holds
#print axioms Bxh.Props.C02.runIbtps_cons
#print axioms Bxh.Props.C02.runIbtps_inv
#print axioms Bxh.Props.C02.handleIBTP_ok_checked
#print axioms Bxh.Props.C02.checkIBTP_ends
#print axioms Bxh.Props.C02.checkIBTP_request_batch
#print axioms Bxh.Props.C02.OrderedDst.of_stored
#print axioms Bxh.Props.C02.OrderedDst.mono
#print axioms Bxh.Props.C02.orderedDst_not_batch
#print axioms Bxh.Props.C02.orderedDst_next_index
#print axioms Bxh.Props.C02.handleIBTP_pair_counter
#print axioms Bxh.Props.C02.C02_history_requests_consecutive
#print axioms Bxh.Props.C02.orderedDst_env
#print axioms Bxh.Props.C02.applyBvm_ic_frame
#print axioms Bxh.Props.C02.C02_tx_counter_step
#print axioms Bxh.Props.C02.C02_timeout_steps_keep_counters
#print axioms Bxh.Props.C02.events_setIC
#print axioms Bxh.Props.C02.events_setDestIC
#print axioms Bxh.Props.C02.beginTransaction_fresh_change
#print axioms Bxh.Props.C02.C02_accepted_request_is_handed_to_its_destination
#print axioms Bxh.Props.C02.C02_receipt_needs_next_index
#print axioms Bxh.Props.C02.C02_receipt_needs_begun_transaction
