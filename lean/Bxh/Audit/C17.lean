import Bxh.Props.C17
#print axioms Bxh.Props.C17.gated_eq
#print axioms Bxh.Props.C17.methodTable_facts
#print axioms Bxh.Props.C17.C17_stub_toolbox_not_dispatched
#print axioms Bxh.Props.C17.C17_resolve_sound
#print axioms Bxh.Props.C17.C17_internal_entries_gated
#print axioms Bxh.Props.C17.C17_ungated_entries_have_no_gate
#print axioms Bxh.Props.C17.C17_specific_gate_iff
#print axioms Bxh.Props.C17.C17_specific_gate_refuses_outsiders
#print axioms Bxh.Props.C17.C17_self_admin_gate_iff
#print axioms Bxh.Props.C17.C17_empty_gate_denies
#print axioms Bxh.Props.C17.C17_ibtp_data_entry_asks_for_its_caller
