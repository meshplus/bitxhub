import Bxh.Props.C16
import Bxh.Props.C16b
#print axioms Bxh.Props.C16.C16_unavailable_source_rejected
#print axioms Bxh.Props.C16.isNotification_local
#print axioms Bxh.Props.C16.C16_target_error_iff
#print axioms Bxh.Props.C16.checkIBTP_request_source
#print axioms Bxh.Props.C16.C16_accepted_request_is_gated
#print axioms Bxh.Props.C16.C16_remote_target_needs_registered_hub
#print axioms Bxh.Props.C16.lifecycle_facts
#print axioms Bxh.Props.C16.C16_forbidden_absorbing
#print axioms Bxh.Props.C16.C16_rule_forbidden_only_cleared
#print axioms Bxh.Props.C16.C16_logout_approved_is_forbidden
#print axioms Bxh.Props.C16.C16_freeze_makes_unavailable
#print axioms Bxh.Props.C16.C16_reject_never_makes_available
#print axioms Bxh.Props.C16.C16_forbidden_forever
#print axioms Bxh.Props.C16.C16_forbidden_never_available
#print axioms Bxh.Props.C16.manageCascade_facts
#print axioms Bxh.Props.C16.C16_approved_freeze_and_logout_cascade
#print axioms Bxh.Props.C16.C16_services_released_only_by_activation_or_rejected_logout
#print axioms Bxh.Props.C16.C16_freeze_and_logout_never_release
#print axioms Bxh.Props.C16.submissionCascade_facts
#print axioms Bxh.Props.C16.C16_pending_logout_and_update_pause_unconditionally
#print axioms Bxh.Props.C16.C16_rejected_service_operations_repause
#print axioms Bxh.Props.C16.C16_rejected_update_does_not_repause_finding
