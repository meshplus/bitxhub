import Bxh.Props.C06
import Bxh.Props.C06b
#print axioms Bxh.Props.C06.C06_request_recorded_at_deadline
#print axioms Bxh.Props.C06.C06_interhub_request_with_group_recorded
#print axioms Bxh.Props.C06.finalInterRecord_none_of_local
#print axioms Bxh.Props.C06.finalInterRecord_none_of_open
#print axioms Bxh.Props.C06.C06_notice_leaves_list
#print axioms Bxh.Props.C06.C06_zero_never
#print axioms Bxh.Props.C06.rejected_not_accepted
#print axioms Bxh.Props.C06.C06_rejected_never
#print axioms Bxh.Props.C06.C06_rejected_skipped
#print axioms Bxh.Props.C06.C06_receipt_removes
#print axioms Bxh.Props.C06.C06_unaccepted_receipt_keeps
#print axioms Bxh.Props.C06.getTimeoutList_of
#print axioms Bxh.Props.C06.C06_remove_exact
#print axioms Bxh.Props.C06.C06_remove_keeps_others
#print axioms Bxh.Props.C06.C06_router_hands_each_pier_its_timeouts
#print axioms Bxh.Props.C06.rollbackStep_glob_present
#print axioms Bxh.Props.C06.rollbackFold_spec
#print axioms Bxh.Props.C06.rollbackFold_no_abort
#print axioms Bxh.Props.C06.C06_fires_at_deadline
#print axioms Bxh.Props.C06.C06_not_listed_untouched
#print axioms Bxh.Props.C06.C06_emptied_list_quirk
#print axioms Bxh.Props.C06.C06_block_books_requests
#print axioms Bxh.Props.C06.C06_block_unbooks
#print axioms Bxh.Props.C06.C06_block_request_and_receipt_net_out
#print axioms Bxh.Props.C06.C06_block_other_heights_untouched
#print axioms Bxh.Props.C06.C06_answered_request_never_times_out
#print axioms Bxh.Props.C06.C06_final_is_unlisted_forever
#print axioms Bxh.Props.C06.C06_open_listed_only_under_its_deadline
#print axioms Bxh.Props.C06.C06_transactions_leave_the_lists_alone
#print axioms Bxh.Props.C06.no_remove_of_unanswered
#print axioms Bxh.Props.C06.setTimeoutList_count_eq
#print axioms Bxh.Props.C06.block_unanswered_count
#print axioms Bxh.Props.C06.listAfter_wf
#print axioms Bxh.Props.C06.execBlock_wf
#print axioms Bxh.Props.C06.C06_block_keeps_due
#print axioms Bxh.Props.C06.C06_block_fires_due
#print axioms Bxh.Props.C06.C06_block_opens_due
#print axioms Bxh.Props.C06.C06_history_keeps_due
#print axioms Bxh.Props.C06.C06_unanswered_request_times_out
#print axioms Bxh.Props.C06.C06_request_unanswered_until_H_plus_T_times_out
