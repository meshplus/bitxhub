import Bxh.Props.C11
#print axioms Bxh.Props.C11.C11_recover_iff
#print axioms Bxh.Props.C11.C11_state_behind_chain_index
#print axioms Bxh.Props.C11.C11_blockfile_ahead
#print axioms Bxh.Props.C11.C11_chain_index_ahead
#print axioms Bxh.Props.C11.C11_always_recovers_false
#print axioms Bxh.Props.C11.C11_startup_root
#print axioms Bxh.Props.C11.C11_startup_root_genesis
#print axioms Bxh.Props.C11.C11_recovered_chain_is_before_or_after
#print axioms Bxh.Props.C11.C11_idle_block_changes_no_account
