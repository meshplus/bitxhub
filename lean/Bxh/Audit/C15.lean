import Bxh.Props.C15
#print axioms Bxh.Props.C15.wf_new
#print axioms Bxh.Props.C15.setVote_ok
#print axioms Bxh.Props.C15.vote_ok
#print axioms Bxh.Props.C15.decide_approved_iff
#print axioms Bxh.Props.C15.decide_rejected_iff
#print axioms Bxh.Props.C15.countVote_eq
#print axioms Bxh.Props.C15.countVote_status
#print axioms Bxh.Props.C15.countStatus_concludes
#print axioms Bxh.Props.C15.WF.withBallot
#print axioms Bxh.Props.C15.WF.countVote
#print axioms Bxh.Props.C15.C15_one_vote_per_admin
#print axioms Bxh.Props.C15.C15_refusals
#print axioms Bxh.Props.C15.C15_approved_only_if_rule
#print axioms Bxh.Props.C15.C15_rejected_only_if_unreachable
#print axioms Bxh.Props.C15.C15_special_needs_super_admin
#print axioms Bxh.Props.C15.C15_finality
#print axioms Bxh.Props.C15.C15_simple_majority
#print axioms Bxh.Props.C15.C15_table_finality
#print axioms Bxh.Props.C15.C15_table_finality_history
#print axioms Bxh.Props.C15.C15_table_vote_needs_proposed
#print axioms Bxh.Props.C15.C15_table_lock_only_lower_priority
