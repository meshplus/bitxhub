import Bxh.Props.C14
#print axioms Bxh.Props.C14.C14_transfer_exact
#print axioms Bxh.Props.C14.C14_self_transfer_neutral
#print axioms Bxh.Props.C14.C14_transfer_fails_iff
#print axioms Bxh.Props.C14.C14_transfer_nonneg
#print axioms Bxh.Props.C14.C14_fee_rounding
#print axioms Bxh.Props.C14.C14_payGasFee_sender_nonneg
#print axioms Bxh.Props.C14.C14_block_no_value_created
#print axioms Bxh.Props.C14.C14_history_no_value_created
#print axioms Bxh.Props.C14.total_eq
#print axioms Bxh.Props.C14.C14_paid_fee_reaches_admins
#print axioms Bxh.Props.C14.C14_unpayable_fee_reaches_admins
#print axioms Bxh.Props.C14.C14_tx_loss_bound
#print axioms Bxh.Props.C14.C14_block_loss_bound
